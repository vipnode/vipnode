/- Lemmas about the association-list model of Go maps. Core Lean only. -/
import Vipnode.Model.AList
namespace Vipnode

theorem sumInts_append (a b : List Int) : sumInts (a ++ b) = sumInts a + sumInts b := List.sum_append_int

theorem sumInts_perm {l₁ l₂ : List Int} (h : l₁.Perm l₂) : sumInts l₁ = sumInts l₂ :=
  h.foldr_eq' (f := (· + ·)) (fun _ _ _ _ _ => Int.add_left_comm ..) 0

namespace AList
variable {α : Type}

@[simp] theorem get_nil (k : String) : get ([] : AList α) k = none := rfl

theorem get_set_eq (l : AList α) (k : String) (v : α) : get (set l k v) k = some v := by
  induction l with
  | nil => simp [set, get]
  | cons h t ih =>
    obtain ⟨k', v'⟩ := h
    by_cases hk : k' = k
    · simp [set, get, hk]
    · simp [set, get, hk, ih]

theorem get_set_ne (l : AList α) {k k' : String} (v : α) (h : k ≠ k') : get (set l k v) k' = get l k' := by
  induction l with
  | nil => simp [set, get, h]
  | cons hd t ih =>
    obtain ⟨k0, v0⟩ := hd
    by_cases hk : k0 = k
    · subst hk; simp [set, get, h]
    · by_cases hk' : k0 = k'
      · subst hk'; simp [set, get, hk]
      · simp [set, get, hk, hk', ih]

theorem get_set (l : AList α) (k k' : String) (v : α) :
    get (set l k v) k' = if k = k' then some v else get l k' := by
  split
  · next h => rw [← h, get_set_eq]
  · next h => exact get_set_ne l v h

theorem isSome_get_set (l : AList α) (k k' : String) (v : α) :
    ((l.set k v).get k').isSome ↔ k' = k ∨ (l.get k').isSome := by
  rw [get_set]; split
  · next e => simp [e]
  · next e => simp [Ne.symm e]

theorem get_del_ne (l : AList α) {k k' : String} (h : k ≠ k') : get (del l k) k' = get l k' := by
  induction l with
  | nil => simp [del, get]
  | cons hd t ih =>
    obtain ⟨k0, v0⟩ := hd
    by_cases hk : k0 = k
    · subst hk; simp [del, get, h]
    · by_cases hk' : k0 = k'
      · subst hk'; simp [del, get, hk]
      · simp [del, get, hk, hk', ih]

/-- sum of an integer measure over the values -/
def sumBy (f : α → Int) (l : AList α) : Int := sumInts (l.vals.map f)

@[simp] theorem sumBy_nil (f : α → Int) : sumBy f ([] : AList α) = 0 := rfl
@[simp] theorem sumBy_cons (f : α → Int) (k : String) (v : α) (t : AList α) :
    sumBy f ((k, v) :: t) = f v + sumBy f t := rfl

theorem sumBy_set (f : α → Int) (l : AList α) (k : String) (v : α) :
    sumBy f (set l k v) = sumBy f l - ((get l k).map f).getD 0 + f v := by
  induction l with
  | nil => simp [set, get]
  | cons hd t ih =>
    obtain ⟨k0, v0⟩ := hd
    by_cases hk : k0 = k
    · simp only [set, get, hk, if_true, sumBy_cons, Option.map_some, Option.getD_some]
      rw [Int.add_comm (f v0), Int.add_sub_cancel, Int.add_comm]
    · simp only [set, get, hk, if_false, sumBy_cons, ih]
      rw [← Int.add_assoc, ← Int.add_sub_assoc]

theorem sumBy_del (f : α → Int) (l : AList α) (k : String) :
    sumBy f (del l k) = sumBy f l - ((get l k).map f).getD 0 := by
  induction l with
  | nil => rfl
  | cons hd t ih =>
    obtain ⟨k0, v0⟩ := hd
    by_cases hk : k0 = k
    · simp only [del, get, hk, if_true, sumBy_cons, Option.map_some, Option.getD_some]
      rw [Int.add_comm, Int.add_sub_cancel]
    · simp only [del, get, hk, if_false, sumBy_cons, ih]
      exact (Int.add_sub_assoc ..).symm

/-- keys are pairwise distinct -/
def NoDupKeys (l : AList α) : Prop := l.keys.Nodup

@[simp] theorem keys_nil : keys ([] : AList α) = [] := rfl
@[simp] theorem keys_cons (k : String) (v : α) (t : AList α) : keys ((k, v) :: t) = k :: keys t := rfl

/-- `set` overwrites in place or appends: the keys stay, or gain the new one at the end -/
theorem keys_set (l : AList α) (k : String) (v : α) :
    (set l k v).keys = if k ∈ l.keys then l.keys else l.keys ++ [k] := by
  induction l with
  | nil => rfl
  | cons hd t ih =>
    obtain ⟨k0, v0⟩ := hd
    by_cases hk : k0 = k
    · simp [set, hk]
    · simp only [set, hk, if_false, keys_cons, ih, List.mem_cons, Ne.symm hk, false_or]; split <;> rfl

theorem noDup_set (l : AList α) (k : String) (v : α) (h : NoDupKeys l) : NoDupKeys (set l k v) := by
  rw [NoDupKeys, keys_set]; split
  · exact h
  · next hk => exact List.nodup_append.2 ⟨h, List.nodup_cons.2 ⟨List.not_mem_nil, List.nodup_nil⟩,
      fun a ha b hb e => hk (List.mem_singleton.1 hb ▸ e ▸ ha)⟩

/-- `del` removes the first binding of the key -/
theorem keys_del (l : AList α) (k : String) : (del l k).keys = l.keys.erase k := by
  induction l with
  | nil => rfl
  | cons hd t ih =>
    obtain ⟨k0, v0⟩ := hd
    by_cases hk : k0 = k <;> simp [del, hk, ih]

theorem noDup_del (l : AList α) (k : String) (h : NoDupKeys l) : NoDupKeys (del l k) := by
  rw [NoDupKeys, keys_del]; exact h.erase k

/-- a key is bound exactly when it occurs among the keys -/
theorem mem_keys_iff (l : AList α) (k : String) : k ∈ l.keys ↔ (get l k).isSome := by
  induction l with
  | nil => simp
  | cons hd t ih =>
    obtain ⟨k0, v0⟩ := hd
    by_cases hk : k0 = k
    · simp [get, hk]
    · simp [get, hk, ih, Ne.symm hk]

theorem get_none_of_not_mem (l : AList α) (k : String) (h : k ∉ l.keys) : get l k = none := by
  rw [mem_keys_iff] at h; simpa using h

theorem noDup_filter (l : AList α) (hn : NoDupKeys l) (f : String × α → Bool) : NoDupKeys (l.filter f) :=
  (List.Sublist.map _ List.filter_sublist).nodup hn

/-- with distinct keys, filtering the bindings filters the lookup -/
theorem get_filter (l : AList α) (hn : NoDupKeys l) (f : String × α → Bool) (k : String) :
    get (l.filter f) k = (get l k).filter (fun v => f (k, v)) := by
  induction l with
  | nil => rfl
  | cons hd t ih =>
    obtain ⟨k0, v0⟩ := hd
    simp only [NoDupKeys, keys_cons, List.nodup_cons] at hn
    by_cases hk : k0 = k
    · subst hk
      have := get_none_of_not_mem t k0 hn.1
      by_cases hf : f (k0, v0) = true
      · simp [List.filter, hf, get, Option.filter]
      · simp [List.filter, hf, get, ih hn.2, this, Option.filter]
    · by_cases hf : f (k0, v0) = true <;> simp [List.filter, hf, get, hk, ih hn.2]

theorem get_del_self (l : AList α) (k : String) (h : NoDupKeys l) : get (del l k) k = none :=
  get_none_of_not_mem _ _ (keys_del l k ▸ h.not_mem_erase)

theorem get_set_eq_none {l : AList α} {k k' : String} {v : α} :
    (l.set k v).get k' = none ↔ k ≠ k' ∧ l.get k' = none := by
  rw [get_set]; split <;> simp [*]

theorem get_del_none (l : AList α) (k k' : String) (h : l.get k' = none) : (l.del k).get k' = none :=
  get_none_of_not_mem _ _ fun hm => by
    have := (mem_keys_iff l k').1 (List.mem_of_mem_erase (keys_del l k ▸ hm)); simp [h] at this

theorem set_set (l : AList α) (k : String) (a b : α) : (l.set k a).set k b = l.set k b := by
  induction l with
  | nil => simp [set]
  | cons kv t ih => simp only [set]; split <;> simp [set, *]

theorem get_of_mem (l : AList α) (h : NoDupKeys l) (k : String) (v : α) (hm : (k, v) ∈ l) :
    l.get k = some v := by
  induction l with
  | nil => cases hm
  | cons kv t ih =>
    have ⟨hk, ht⟩ : kv.1 ∉ keys t ∧ NoDupKeys t := List.nodup_cons.mp h
    rcases List.mem_cons.mp hm with rfl | hmt
    · exact if_pos rfl
    · have hkt : k ∈ keys t := List.mem_map_of_mem (f := (·.1)) hmt
      exact (if_neg fun e : kv.1 = k => hk (e ▸ hkt)).trans (ih ht hmt)

/-! mapping the values commutes with `get` and `set` -/

theorem get_mapv {β : Type} (l : AList α) (f : α → β) (k : String) :
    get (l.map (fun kv => (kv.1, f kv.2)) : AList β) k = (get l k).map f := by
  induction l with
  | nil => rfl
  | cons kv t ih => simp only [List.map_cons, get]; split <;> simp [ih]

theorem set_mapv {β : Type} (l : AList α) (f : α → β) (k : String) (v : α) :
    ((set l k v).map (fun kv => (kv.1, f kv.2)) : AList β) =
      set (l.map (fun kv => (kv.1, f kv.2)) : AList β) k (f v) := by
  induction l with
  | nil => rfl
  | cons kv t ih => simp only [AList.set, List.map_cons]; split <;> simp [ih]

end AList
end Vipnode
