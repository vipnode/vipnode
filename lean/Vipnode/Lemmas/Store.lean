/- The store model through its total functions: each `Except`-valued operation is a guard followed by a
total function on stores (`credit`, `link`, `checkIn`, a record update), and `applyOp` is that function
or the identity.  Frames, ledger effect and invariants are read off these closed forms. Core Lean only. -/
import Vipnode.Model.Store
import Vipnode.Lemmas.AList
namespace Vipnode

theorem ite_error_eq_ok {ε α : Type} {c : Prop} [Decidable c] {e : ε} {a a' : α} :
    (if c then Except.error e else Except.ok a) = .ok a' ↔ ¬c ∧ a' = a := by
  by_cases h : c <;> simp [h, @eq_comm _ a]

namespace Store
open AList

/-- what `AddNodeBalance` does to a registered node: add to the purse it spends from -/
def credit (s : Store) (id : String) (amt : Int) : Store :=
  match s.accounts.get id with
  | some a => let b := (s.balances.get a).getD {}
              { s with balances := s.balances.set a { b with credit := b.credit + amt } }
  | none => let b := (s.trials.get id).getD {}
            { s with trials := s.trials.set id { b with credit := b.credit + amt } }

/-- what `AddAccountNode` does to a registered node -/
def link (s : Store) (a id : String) : Store :=
  let b := (s.balances.get a).getD {}
  { s with accounts := s.accounts.set id a
           balances := s.balances.set a { b with credit := b.credit + ((s.trials.get id).getD {}).credit, account := a }
           trials := s.trials.del id }

/-- what `UpdateNodePeers` does to a node whose record is `n` -/
def checkIn (s : Store) (id : String) (n : Node) (reported : List String) (block : Nat) (now : Int) : Store × List String :=
  let nodes' := s.nodes.set id { n with lastSeen := now, block := block }
  let tracked := refreshPeers nodes' ((s.peers.get id).getD []) reported
  ({ s with nodes := nodes', peers := s.peers.set id (tracked.filter (fun kv => decide (now - W < kv.2))) },
   (tracked.filter (fun kv => decide (kv.2 ≤ now - W))).map (·.1))

theorem addNodeBalance_eq (s : Store) (id : String) (amt : Int) :
    s.addNodeBalance id amt = if s.nodes.get id = none then .error .unregistered else .ok (s.credit id amt) := by
  unfold addNodeBalance credit
  cases s.nodes.get id <;> cases s.accounts.get id <;> rfl

theorem addAccountNode_eq (s : Store) (a id : String) :
    s.addAccountNode a id = if s.nodes.get id = none then .error .unregistered else .ok (s.link a id) := by
  unfold addAccountNode link
  cases s.nodes.get id <;> rfl

theorem updateNodePeers_eq (s : Store) (id : String) (r : List String) (b : Nat) (now : Int) :
    s.updateNodePeers id r b now = match s.nodes.get id with
      | none => .error .unregistered
      | some n => .ok (s.checkIn id n r b now) := rfl

/-- `CheckAndSaveNonce` in closed form: a nonce is refused exactly when it is stale or not above the identity's entry,
and honouring it writes that entry and nothing else -/
theorem checkAndSaveNonce_eq (s : Store) (id : String) (n now : Int) :
    s.checkAndSaveNonce id n now =
      if n ≤ now - nonceWindow ∨ n ≤ (s.nonces.get id).getD 0 then .error .invalidNonce
      else .ok { s with nonces := s.nonces.set id n } := by
  unfold checkAndSaveNonce; split
  · next h => rw [if_pos (Or.inl h)]
  · next h => simp only [h, false_or]

theorem setNode_ok_iff {s s' : Store} {n : Node} :
    s.setNode n = .ok s' ↔ n.id ≠ "" ∧ s' = { s with nodes := s.nodes.set n.id n } := ite_error_eq_ok

theorem addNodeBalance_ok_iff {s s' : Store} {id : String} {amt : Int} :
    s.addNodeBalance id amt = .ok s' ↔ s.nodes.get id ≠ none ∧ s' = s.credit id amt := by
  rw [addNodeBalance_eq, ite_error_eq_ok]

theorem addAccountNode_ok_iff {s s' : Store} {a id : String} :
    s.addAccountNode a id = .ok s' ↔ s.nodes.get id ≠ none ∧ s' = s.link a id := by
  rw [addAccountNode_eq, ite_error_eq_ok]

theorem updateNodePeers_ok_iff {s : Store} {id : String} {r : List String} {b : Nat} {now : Int} {x : Store × List String} :
    s.updateNodePeers id r b now = .ok x ↔ ∃ n, s.nodes.get id = some n ∧ x = s.checkIn id n r b now := by
  rw [updateNodePeers_eq]; cases s.nodes.get id <;> simp [@eq_comm _ x]

/-! `applyOp` in closed form: a refused call is the identity, an accepted one its total function
(`applyOp s (.addAccountBalance a amt)` is `s.addAccountBalance a amt` by `rfl`) -/

theorem applyOp_setNode (s : Store) (n : Node) :
    applyOp s (.setNode n) = if n.id = "" then s else { s with nodes := s.nodes.set n.id n } := by
  by_cases h : n.id = "" <;> simp [applyOp, setNode, h]

theorem applyOp_unp (s : Store) (id : String) (r : List String) (b : Nat) (now : Int) :
    applyOp s (.unp id r b now) = match s.nodes.get id with
      | none => s
      | some n => (s.checkIn id n r b now).1 := by
  simp only [applyOp, updateNodePeers_eq]; cases s.nodes.get id <;> rfl

theorem applyOp_addNodeBalance (s : Store) (id : String) (amt : Int) :
    applyOp s (.addNodeBalance id amt) = if s.nodes.get id = none then s else s.credit id amt := by
  by_cases h : s.nodes.get id = none <;> simp [applyOp, addNodeBalance_eq, h]

theorem applyOp_addAccountNode (s : Store) (a id : String) :
    applyOp s (.addAccountNode a id) = if s.nodes.get id = none then s else s.link a id := by
  by_cases h : s.nodes.get id = none <;> simp [applyOp, addAccountNode_eq, h]

theorem applyOp_nonce (s : Store) (id : String) (n now : Int) :
    applyOp s (.nonce id n now) =
      if n ≤ now - nonceWindow ∨ n ≤ (s.nonces.get id).getD 0 then s else { s with nonces := s.nonces.set id n } := by
  by_cases h : n ≤ now - nonceWindow ∨ n ≤ (s.nonces.get id).getD 0 <;> simp [applyOp, checkAndSaveNonce_eq, h]

/-- to show a property of the store after any operation: it holds of the store before (a refused call changes
nothing) and of what each accepted call leaves -/
theorem applyOp_cases {P : Store → Prop} {s : Store} (h : P s)
    (setNode : ∀ n : Node, n.id ≠ "" → P { s with nodes := s.nodes.set n.id n })
    (unp : ∀ id n r b now, s.nodes.get id = some n → P (s.checkIn id n r b now).1)
    (credit : ∀ id amt, s.nodes.get id ≠ none → P (s.credit id amt))
    (addAccountBalance : ∀ a amt, P (s.addAccountBalance a amt))
    (link : ∀ a id, s.nodes.get id ≠ none → P (s.link a id))
    (nonce : ∀ id n, P { s with nonces := s.nonces.set id n }) (op : Op) : P (applyOp s op) := by
  cases op with
  | setNode n =>
    rw [applyOp_setNode]; split
    · exact h
    · next hid => exact setNode n hid
  | unp id r b now =>
    rw [applyOp_unp]; split
    · exact h
    · next n hn => exact unp id n r b now hn
  | addNodeBalance id amt =>
    rw [applyOp_addNodeBalance]; split
    · exact h
    · next hreg => exact credit id amt hreg
  | addAccountBalance a amt => exact addAccountBalance a amt
  | addAccountNode a id =>
    rw [applyOp_addAccountNode]; split
    · exact h
    · next hreg => exact link a id hreg
  | nonce id n now =>
    rw [applyOp_nonce]; split
    · exact h
    · exact nonce id n

@[simp] theorem credit_nodes (s : Store) (id amt) : (s.credit id amt).nodes = s.nodes := by unfold credit; split <;> rfl
@[simp] theorem credit_peers (s : Store) (id amt) : (s.credit id amt).peers = s.peers := by unfold credit; split <;> rfl

/-- crediting `id` moves exactly the balances of the nodes that spend from the same purse -/
theorem nodeBalance_credit (s : Store) (id x : String) (amt : Int) :
    (s.credit id amt).nodeBalance x =
      if s.accounts.get x = s.accounts.get id ∧ (s.accounts.get id = none → x = id)
      then { s.nodeBalance x with credit := (s.nodeBalance x).credit + amt } else s.nodeBalance x := by
  unfold credit nodeBalance
  cases hi : s.accounts.get id <;> cases hx : s.accounts.get x <;> simp only
  · by_cases e : id = x
    · subst e; simp [get_set_eq]
    · simp [get_set_ne _ _ e, Ne.symm e]
  · simp
  · simp
  · rename_i a a'
    by_cases e : a = a'
    · subst e; simp [get_set_eq]
    · simp [get_set_ne _ _ e, Ne.symm e]

theorem creditSum_eq (l : AList Bal) : creditSum l = sumBy (·.credit) l := rfl

theorem creditSum_set (l : AList Bal) (k : String) (b : Bal) :
    creditSum (l.set k b) = creditSum l - ((l.get k).getD {}).credit + b.credit := by
  rw [creditSum_eq, sumBy_set]; cases l.get k <;> rfl

theorem creditSum_del (l : AList Bal) (k : String) :
    creditSum (l.del k) = creditSum l - ((l.get k).getD {}).credit := by
  rw [creditSum_eq, sumBy_del]; cases l.get k <;> rfl

theorem ledger_credit (s : Store) (id : String) (amt : Int) : ledgerSum (s.credit id amt) = ledgerSum s + amt := by
  unfold credit; split <;> simp only [ledgerSum, creditSum_set] <;> omega

theorem ledger_addAccountBalance (s : Store) (a : String) (amt : Int) :
    ledgerSum (s.addAccountBalance a amt) = ledgerSum s + amt := by
  simp only [addAccountBalance, ledgerSum, creditSum_set]; omega

theorem ledger_link (s : Store) (a id : String) : ledgerSum (s.link a id) = ledgerSum s := by
  simp only [link, ledgerSum, creditSum_set, creditSum_del]; omega

theorem ledger_applyOp (s : Store) (op : Op) : ledgerSum (applyOp s op) = ledgerSum s + opCredit s op := by
  cases op with
  | setNode n => rw [applyOp_setNode]; split <;> exact (Int.add_zero _).symm
  | unp id r b now => rw [applyOp_unp]; split <;> exact (Int.add_zero _).symm
  | addNodeBalance id amt =>
    rw [applyOp_addNodeBalance, opCredit]; cases s.nodes.get id
    · exact (Int.add_zero _).symm
    · exact ledger_credit ..
  | addAccountBalance a amt => exact ledger_addAccountBalance s a amt
  | addAccountNode a id =>
    rw [applyOp_addAccountNode]; split
    · exact (Int.add_zero _).symm
    · exact (ledger_link ..).trans (Int.add_zero _).symm
  | nonce id n now => rw [applyOp_nonce]; split <;> exact (Int.add_zero _).symm

theorem ledger_run (s : Store) (ops : List Op) : ledgerSum (run s ops) = ledgerSum s + creditAdded s ops := by
  induction ops generalizing s with
  | nil => simp [run, creditAdded]
  | cons op ops ih =>
    simp only [run, List.foldl_cons, creditAdded] at *
    rw [ih (applyOp s op), ledger_applyOp]; omega

/-- every node record is stored under its own id (both drivers key `SetNode` by `n.ID`) -/
def KeysMatch (s : Store) : Prop := ∀ k n, s.nodes.get k = some n → n.id = k

theorem keysMatch_empty : KeysMatch Store.empty := by
  intro k n h; simp [Store.empty] at h

theorem keysMatch_set {s s' : Store} {k : String} {n : Node} (h : KeysMatch s) (hk : n.id = k)
    (hs : s'.nodes = s.nodes.set k n) : KeysMatch s' := by
  intro k' n' h'
  rw [hs] at h'
  by_cases e : k = k'
  · subst e; rw [get_set_eq] at h'; cases h'; exact hk
  · rw [get_set_ne _ _ e] at h'; exact h k' n' h'

theorem keysMatch_of_nodes_eq {s s' : Store} (h : KeysMatch s) (e : s'.nodes = s.nodes) : KeysMatch s' := by
  intro k n hk; rw [e] at hk; exact h k n hk

theorem keysMatch_applyOp (s : Store) (op : Op) (h : KeysMatch s) : KeysMatch (applyOp s op) := by
  refine applyOp_cases h ?setNode ?unp ?credit ?addAccountBalance ?link ?nonce op
  case setNode => exact fun n _ => keysMatch_set h rfl rfl
  case unp => exact fun id n r b now hn => keysMatch_set (n := { n with lastSeen := now, block := b }) h (h id n hn) rfl
  case credit => exact fun id amt _ => keysMatch_of_nodes_eq h (credit_nodes ..)
  case addAccountBalance => exact fun _ _ => h
  case link => exact fun _ _ _ => h
  case nonce => exact fun _ _ => h

end Store
end Vipnode
