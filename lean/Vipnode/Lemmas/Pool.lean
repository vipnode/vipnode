/- The pool endpoints in closed form: what `verify` leaves behind, and the state after `connect`, `Update`,
`Withdraw`; the ledger effect of each endpoint follows. Core Lean only. -/
import Vipnode.Model.Pool
import Vipnode.Lemmas.Balance
namespace Vipnode
namespace Pool
open Store AList

/-! ### authentication: an accepted request only records its nonce -/

theorem verify_eq (p : Pool) (sigOk : Bool) (id : String) (nonce now : Int) :
    p.verify sigOk id nonce now =
      if sigOk = false ∨ nonce ≤ now - nonceWindow ∨ nonce ≤ (p.store.nonces.get id).getD 0 then .error .verifyFailed
      else .ok { p with store := { p.store with nonces := p.store.nonces.set id nonce } } := by
  unfold verify; rw [checkAndSaveNonce_eq]
  cases sigOk
  · rfl
  · by_cases h : nonce ≤ now - nonceWindow ∨ nonce ≤ (p.store.nonces.get id).getD 0 <;> simp [h]

theorem verify_ok_iff {p p' : Pool} {sigOk : Bool} {id : String} {nonce now : Int} :
    p.verify sigOk id nonce now = .ok p' ↔
      ¬(sigOk = false ∨ nonce ≤ now - nonceWindow ∨ nonce ≤ (p.store.nonces.get id).getD 0) ∧
      p' = { p with store := { p.store with nonces := p.store.nonces.set id nonce } } := by
  rw [verify_eq, ite_error_eq_ok]

theorem verify_error (p : Pool) (sigOk : Bool) (id : String) (nonce now : Int) (e : PoolErr)
    (h : p.verify sigOk id nonce now = .error e) : e = .verifyFailed := by
  rw [verify_eq] at h; split at h <;> cases h; rfl

/-- the record `connect` stores for `id`, advertised under `uri` -/
def connectNode (id : String) (req : ConnectReq) (now : Int) (uri : String) : Node :=
  { id := id, uri := uri, kind := if req.kind = "unknown" then "" else req.kind, lastSeen := now, isHost := req.isFull,
    payout := req.payout, nodeVersion := req.nodeVersion, vipnodeVersion := req.vipnodeVersion }

/-- the second half of `connect`: store the record, then ask the balance manager -/
def connectStore (p1 : Pool) (node : Node) : Pool × Except PoolErr Unit :=
  if node.id = "" then (p1, .error (.store .malformed))
  else ({ p1 with store := { p1.store with nodes := p1.store.nodes.set node.id node } },
        match managerOnClient { p1 with store := { p1.store with nodes := p1.store.nodes.set node.id node } } node with
        | .error e => .error (.ofBal e)
        | .ok _ => .ok ())

/-- every `connect` is a refusal that leaves the pool alone (a full node without a connection or a usable address),
or stores the record in a pool that differs at most in the host registry -/
theorem connect_cases (p : Pool) (conn : Option String) (src id : String) (req : ConnectReq) (now : Int) :
    (∃ e, p.connect conn src id req now = (p, .error e) ∧ ∀ c m, e ≠ .lowBalance c m) ∨
    ∃ p1 uri, p.connect conn src id req now = connectStore p1 (connectNode id req now uri) ∧ p1.store = p.store := by
  have tail : ∀ (p1 : Pool) (node : Node),
      (match p1.store.setNode node with
        | .error e => (p1, Except.error (PoolErr.store e))
        | .ok s => match managerOnClient { p1 with store := s } node with
          | .error e => ({ p1 with store := s }, Except.error (PoolErr.ofBal e))
          | .ok _ => ({ p1 with store := s }, Except.ok ())) = connectStore p1 node := by
    intro p1 node
    unfold connectStore setNode
    by_cases hid : node.id = ""
    · rw [if_pos hid, if_pos hid]
    · rw [if_neg hid, if_neg hid]; dsimp only; cases managerOnClient _ node <;> rfl
  -- once the request's flags are known, `connect` evaluates to one of its branches
  obtain ⟨kind, isFull, override, unparsable, payout, nodeVersion, vipnodeVersion⟩ := req
  cases isFull
  · exact Or.inr ⟨p, "", tail _ _, rfl⟩
  cases conn with
  | none => exact Or.inl ⟨_, rfl, nofun⟩
  | some c =>
    cases unparsable
    · unfold connect
      cases normalizeNodeURI override id src "30303" with
      | error e => exact Or.inl ⟨_, rfl, nofun⟩
      | ok a => exact Or.inr ⟨p.register id c, a.render, tail _ _, rfl⟩
    · exact Or.inl ⟨_, rfl, nofun⟩

theorem connect_store (p : Pool) (conn : Option String) (src id : String) (req : ConnectReq) (now : Int) :
    (p.connect conn src id req now).1.store = p.store ∨
    ∃ n : Node, n.id = id ∧ (p.connect conn src id req now).1.store = { p.store with nodes := p.store.nodes.set id n } := by
  rcases connect_cases p conn src id req now with ⟨e, h, _⟩ | ⟨p1, uri, h, h1⟩ <;> rw [h]
  · exact Or.inl rfl
  · unfold connectStore; split
    · exact Or.inl h1
    · exact Or.inr ⟨_, rfl, by rw [h1]; rfl⟩

theorem Connect_ledger (p : Pool) (conn : Option String) (src : String) (sigOk : Bool) (id : String) (nonce : Int)
    (req : ConnectReq) (now : Int) :
    ledgerSum (p.Connect conn src sigOk id nonce req now).1.store = ledgerSum p.store := by
  unfold Connect; split
  · rfl
  · rename_i p1 hv
    obtain ⟨-, rfl⟩ := verify_ok_iff.1 hv
    rcases connect_store _ conn src id req now with h | ⟨n, _, h⟩ <;> rw [h] <;> rfl

theorem Peer_ledger (p : Pool) (sigOk : Bool) (id : String) (nonce now : Int) (num : Int) (choice : List String)
    (outcome : String → HostOutcome) :
    ledgerSum (p.Peer sigOk id nonce now num choice outcome).1.store = ledgerSum p.store := by
  unfold Peer; split
  · rfl
  · rename_i p1 hv; obtain ⟨-, rfl⟩ := verify_ok_iff.1 hv; rfl

theorem AddNode_ledger (p : Pool) (sigOk : Bool) (wallet : String) (nonce now : Int) (id : String) :
    ledgerSum (p.AddNode sigOk wallet nonce now id).1.store = ledgerSum p.store := by
  unfold AddNode payVerify; split
  · rfl
  · rename_i p1 hv
    obtain ⟨-, rfl⟩ := verify_ok_iff.1 hv
    split
    · rfl
    · rename_i s hs; obtain ⟨-, rfl⟩ := addAccountNode_ok_iff.1 hs; exact ledger_link _ _ _

/-- the balance manager only credits: what crediting leaves alone, it leaves alone -/
theorem managerOnUpdate_keeps {β : Type} (f : Store → β) (hf : ∀ s id amt, f (s.credit id amt) = f s)
    (p : Pool) (n : Node) (peers : List String) (mnow : Int) (fail : Nat → Bool) :
    f (p.managerOnUpdate n peers mnow fail).1 = f p.store := by
  unfold managerOnUpdate; split
  · rfl
  · rw [onUpdate_fst, billed_keeps f hf]

@[simp] theorem managerOnUpdate_nodes (p : Pool) (n : Node) (peers : List String) (mnow : Int) (fail : Nat → Bool) :
    (p.managerOnUpdate n peers mnow fail).1.nodes = p.store.nodes := managerOnUpdate_keeps Store.nodes credit_nodes ..

@[simp] theorem managerOnUpdate_peers (p : Pool) (n : Node) (peers : List String) (mnow : Int) (fail : Nat → Bool) :
    (p.managerOnUpdate n peers mnow fail).1.peers = p.store.peers := managerOnUpdate_keeps Store.peers credit_peers ..

theorem managerOnUpdate_ledger (p : Pool) (n : Node) (peers : List String) (mnow : Int) (fail : Nat → Bool)
    (hreg : (p.store.nodes.get n.id).isSome) :
    ledgerSum (p.managerOnUpdate n peers mnow fail).1 = ledgerSum p.store := by
  unfold managerOnUpdate; split
  · rfl
  · rw [onUpdate_fst]; exact billed_ledger _ _ _ _ _ _ hreg

/-- the state after a keep-alive: the nonce recorded; if the node is registered, checked in and billed -/
theorem Update_fst (p : Pool) (sigOk : Bool) (id : String) (nonce : Int) (reported : List String) (block : Nat)
    (now mnow : Int) (fail : Nat → Bool) :
    (p.Update sigOk id nonce reported block now mnow fail).1 =
      match p.verify sigOk id nonce now with
      | .error _ => p
      | .ok p1 => match p1.store.nodes.get id with
        | none => p1
        | some before =>
          let s2 := (p1.store.checkIn id before reported block now).1
          { p1 with store := (managerOnUpdate { p1 with store := s2 } before
              (((s2.trackedPeers id).filterMap (fun kv => s2.nodes.get kv.1)).map (·.id)) mnow fail).1 } := by
  unfold Update
  cases p.verify sigOk id nonce now with
  | error e => rfl
  | ok p1 =>
    dsimp only [getNode, updateNodePeers_eq]
    cases h : p1.store.nodes.get id with
    | none => rfl
    | some before =>
      -- the node that has just checked in is registered, so reading its peers back cannot fail
      have hreg : (p1.store.checkIn id before reported block now).1.nodes.get id =
          some { before with lastSeen := now, block := block } := get_set_eq ..
      simp only [nodePeers, hreg]
      split <;> rfl

/-- a keep-alive never changes the ledger total: accepted, refused, failed or cut off for low balance,
for every clock reading, peer report and fault pattern -/
theorem Update_ledger (p : Pool) (sigOk : Bool) (id : String) (nonce : Int) (reported : List String) (block : Nat)
    (now mnow : Int) (fail : Nat → Bool) (hk : KeysMatch p.store) :
    ledgerSum (p.Update sigOk id nonce reported block now mnow fail).1.store = ledgerSum p.store := by
  rw [Update_fst]
  split
  · rfl
  · rename_i p1 hv
    obtain ⟨-, rfl⟩ := verify_ok_iff.1 hv
    split
    · rfl
    · rename_i before hb
      simp only at hb
      rw [managerOnUpdate_ledger _ _ _ _ _ (by simp [checkIn, hk id before hb, get_set_eq])]; rfl

theorem Update_keys (p : Pool) (sigOk : Bool) (id : String) (nonce : Int) (reported : List String) (block : Nat)
    (now mnow : Int) (fail : Nat → Bool) (hk : KeysMatch p.store) :
    KeysMatch (p.Update sigOk id nonce reported block now mnow fail).1.store := by
  rw [Update_fst]
  split
  · exact hk
  · rename_i p1 hv
    obtain ⟨-, rfl⟩ := verify_ok_iff.1 hv
    split
    · exact hk
    · rename_i before hb
      exact keysMatch_set (n := { before with lastSeen := now, block := block }) hk (hk id before hb) (by simp [checkIn])

theorem mem_candidates (p : Pool) (skip choice : List String) (n : Nat) (h c : String)
    (hm : (h, c) ∈ p.candidates skip choice n) :
    h ∈ choice ∧ h ∉ skip ∧ p.hosts.get h = some c := by
  unfold candidates at hm
  obtain ⟨x, hx, hf⟩ := List.mem_filterMap.1 (List.mem_of_mem_take hm)
  split at hf
  · cases hf
  · next hs =>
    obtain ⟨c', hg, e⟩ := Option.map_eq_some_iff.1 hf
    cases e
    exact ⟨hx, by simpa using hs, hg⟩

/-- a whitelist call goes to a chosen host that is neither the requester nor one of its peers, on the connection
the host is registered on -/
theorem mem_whitelistCalls {p : Pool} {id : String} {num : Int} {choice : List String} {h c : String}
    (hm : (h, c) ∈ p.whitelistCalls id num choice) :
    ∃ peers, p.store.nodePeers id = .ok peers ∧ h ∈ choice ∧ h ∉ id :: peers.map (·.id) ∧ p.hosts.get h = some c := by
  unfold whitelistCalls at hm
  split at hm
  · cases hm
  · split at hm
    · cases hm
    · next peers hp => exact ⟨peers, hp, mem_candidates p _ _ _ h c hm⟩

/-- why a verified withdrawal of `total` is not carried out, if it is not -/
def withdrawRefusal (cfg : PoolCfg) (total : Int) (settleOk : Bool) : Option PoolErr :=
  if !cfg.settleEnabled then some .withdrawDisabled
  else if belowWithdrawMin cfg total then some (.withdrawMin total (cfg.withdrawMin.getD 0))
  else if !settleOk then some .settleFailed else none

theorem withdrawRefusal_none_iff {cfg : PoolCfg} {total : Int} {settleOk : Bool} :
    withdrawRefusal cfg total settleOk = none ↔
      cfg.settleEnabled = true ∧ belowWithdrawMin cfg total = false ∧ settleOk = true := by
  unfold withdrawRefusal
  cases cfg.settleEnabled <;> cases belowWithdrawMin cfg total <;> cases settleOk <;> simp

/-- the pool after `wallet` has been paid out -/
def settle (p : Pool) (wallet : String) : Pool :=
  let b := p.walletBalance wallet
  { p with deposits := p.deposits.set wallet 0
           paid := p.paid.set wallet ((p.paid.get wallet).getD 0 + withdrawPay p.cfg (b.deposit + b.credit))
           store := p.store.addAccountBalance wallet (-b.credit) }

/-- a withdrawal is refused at the door, refused or failed after verification, or settles -/
theorem Withdraw_eq (p : Pool) (sigOk : Bool) (w : String) (nonce now : Int) (settleOk : Bool) :
    p.Withdraw sigOk w nonce now settleOk =
      match p.verify sigOk w nonce now with
      | .error e => (p, .error e)
      | .ok p1 =>
        match withdrawRefusal p1.cfg ((p1.walletBalance w).deposit + (p1.walletBalance w).credit) settleOk with
        | some e => (p1, .error e)
        | none => (p1.settle w, .ok (withdrawPay p1.cfg ((p1.walletBalance w).deposit + (p1.walletBalance w).credit))) := by
  unfold Withdraw payVerify withdrawRefusal settle
  cases p.verify sigOk w nonce now with
  | error e => rfl
  | ok p1 =>
    -- three Boolean guards, tested in the same order on both sides
    simp only
    generalize p1.cfg.settleEnabled = enabled
    generalize belowWithdrawMin p1.cfg _ = below
    cases enabled <;> cases below <;> cases settleOk <;> rfl

theorem Withdraw_cfg (p : Pool) (sigOk : Bool) (w : String) (nonce now : Int) (settleOk : Bool) :
    (p.Withdraw sigOk w nonce now settleOk).1.cfg = p.cfg := by
  rw [Withdraw_eq]; split
  · rfl
  · rename_i p1 hv; obtain ⟨-, rfl⟩ := verify_ok_iff.1 hv; split <;> rfl

theorem Withdraw_nodes (p : Pool) (sigOk : Bool) (w : String) (nonce now : Int) (settleOk : Bool) :
    (p.Withdraw sigOk w nonce now settleOk).1.store.nodes = p.store.nodes := by
  rw [Withdraw_eq]; split
  · rfl
  · rename_i p1 hv; obtain ⟨-, rfl⟩ := verify_ok_iff.1 hv; split <;> rfl

/-- a withdrawal removes from the ledger exactly the credit it settled, and nothing when it is refused or fails -/
theorem Withdraw_ledger (p : Pool) (sigOk : Bool) (wallet : String) (nonce now : Int) (settleOk : Bool) :
    ledgerSum (p.Withdraw sigOk wallet nonce now settleOk).1.store =
      ledgerSum p.store - settled p (.withdraw sigOk wallet nonce now settleOk) := by
  rw [settled, Withdraw_eq]; split
  · exact (Int.sub_zero _).symm
  · rename_i p1 hv; obtain ⟨-, rfl⟩ := verify_ok_iff.1 hv
    split
    · exact (Int.sub_zero _).symm
    · exact ledger_addAccountBalance ..

end Pool
end Vipnode
