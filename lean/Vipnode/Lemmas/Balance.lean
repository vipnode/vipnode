/- The balance manager in closed form: `onUpdate` is `billed` (the store) and `verdict` (the answer). Core Lean only. -/
import Vipnode.Model.Balance
import Vipnode.Lemmas.Store
namespace Vipnode
open Store AList

theorem creditPeers_cons (s : Store) (c : Int) (fail : Nat → Bool) (k : Nat) (p : String) (ps : List String) :
    creditPeers s c fail k (p :: ps) =
      if fail k = true ∨ s.nodes.get p = none then creditPeers s c fail (k + 1) ps
      else ((creditPeers (s.credit p c) c fail (k + 1) ps).1, (creditPeers (s.credit p c) c fail (k + 1) ps).2 + c) := by
  rw [creditPeers, addNodeBalance_eq]
  by_cases hf : fail k = true
  · simp [hf]
  · by_cases hn : s.nodes.get p = none <;> simp [hf, hn]

/-- whatever crediting one node leaves alone (the node table, the peer table), crediting a list of peers leaves alone -/
theorem creditPeers_keeps {β : Type} (f : Store → β) (hf : ∀ s id amt, f (s.credit id amt) = f s)
    (s : Store) (c : Int) (fail : Nat → Bool) (k : Nat) (ps : List String) : f (creditPeers s c fail k ps).1 = f s := by
  induction ps generalizing s k with
  | nil => rfl
  | cons p ps ih => rw [creditPeers_cons]; split <;> simp only [ih, hf]

@[simp] theorem creditPeers_nodes (s : Store) (c : Int) (fail : Nat → Bool) (k : Nat) (ps : List String) :
    (creditPeers s c fail k ps).1.nodes = s.nodes := creditPeers_keeps Store.nodes credit_nodes ..

/-- the ledger grows by exactly the total that will be charged, whatever credits fail -/
theorem creditPeers_ledger (s : Store) (c : Int) (fail : Nat → Bool) (k : Nat) (ps : List String) :
    ledgerSum (creditPeers s c fail k ps).1 = ledgerSum s + (creditPeers s c fail k ps).2 := by
  induction ps generalizing s k with
  | nil => simp [creditPeers]
  | cons p ps ih => rw [creditPeers_cons]; split <;> simp only [ih, ledger_credit]; omega

/-- this keep-alive charges the client: it is a light client, the settings are valid, the amount is not zero -/
def charged (cfg : BalCfg) (n : Node) (now : Int) : Prop :=
  n.isHost = false ∧ ¬(cfg.interval ≤ 0 ∨ cfg.price = 0) ∧ intervalCredit cfg now n.lastSeen ≠ 0

instance (cfg : BalCfg) (n : Node) (now : Int) : Decidable (charged cfg n now) := inferInstanceAs (Decidable (_ ∧ _ ∧ _))

/-- the store after the manager handled the keep-alive: every peer credited, then the client debited what was credited -/
def billed (cfg : BalCfg) (s : Store) (n : Node) (peers : List String) (now : Int) (fail : Nat → Bool) : Store :=
  if charged cfg n now then
    applyOp (creditPeers s (intervalCredit cfg now n.lastSeen) fail 0 peers).1
      (.addNodeBalance n.id (-(creditPeers s (intervalCredit cfg now n.lastSeen) fail 0 peers).2))
  else s

/-- the answer: the balance read back, held against the minimum -/
def verdict (min : Option Int) (r : Except StoreErr Bal) : Except BalErr Bal :=
  match r with
  | .error e => .error (.store e)
  | .ok b => match min with
    | some m => if m > b.credit + b.deposit then .error (.lowBalance (b.credit + b.deposit) m) else .ok b
    | none => .ok b

theorem spendable_unregistered {s : Store} {d : AList Int} {id : String} (h : s.nodes.get id = none) :
    spendable s d id = .error .unregistered := by
  simp [spendable, getNodeBalance, h]

/-- `onUpdate` either refuses invalid settings outright, or bills and reads the balance back; the minimum only
counts when something was charged -/
theorem onUpdate_eq (cfg : BalCfg) (s : Store) (d : AList Int) (n : Node) (peers : List String) (now : Int)
    (fail : Nat → Bool) :
    onUpdate cfg s d n peers now fail =
      if n.isHost = false ∧ (cfg.interval ≤ 0 ∨ cfg.price = 0) then (s, .error .invalidSettings)
      else (billed cfg s n peers now fail,
            verdict (if charged cfg n now then cfg.minBalance else none) (spendable (billed cfg s n peers now fail) d n.id)) := by
  unfold onUpdate
  by_cases hh : n.isHost = true
  · simp only [hh, billed, charged, verdict, Bool.true_eq_false, false_and, if_true, if_false]
    cases spendable s d n.id <;> rfl
  by_cases hs : cfg.interval ≤ 0 ∨ cfg.price = 0
  · simp [hh, hs]
  by_cases hz : intervalCredit cfg now n.lastSeen = 0
  · simp only [hh, hs, hz, billed, charged, verdict, ne_eq, not_true, and_false, if_true, if_false]
    cases spendable s d n.id <;> rfl
  have hc : charged cfg n now := ⟨by simpa using hh, hs, hz⟩
  simp only [hh, hs, hz, hc, billed, Bool.false_eq_true, if_false, if_true, and_false, applyOp_addNodeBalance, addNodeBalance_eq]
  generalize creditPeers s (intervalCredit cfg now n.lastSeen) fail 0 peers = cp
  by_cases hn : cp.1.nodes.get n.id = none
  · simp only [hn, if_true, spendable_unregistered hn, verdict]
  · simp only [hn, if_false, verdict]
    cases spendable (cp.1.credit n.id (-cp.2)) d n.id with
    | error e => rfl
    | ok b => cases cfg.minBalance with
      | none => rfl
      | some m => by_cases hm : m > b.credit + b.deposit <;> simp only [hm, if_true, if_false]

theorem onUpdate_fst (cfg : BalCfg) (s : Store) (d : AList Int) (n : Node) (peers : List String) (now : Int)
    (fail : Nat → Bool) : (onUpdate cfg s d n peers now fail).1 = billed cfg s n peers now fail := by
  rw [onUpdate_eq, apply_ite Prod.fst]
  -- with invalid settings nothing is charged, so `billed` is `s` there too
  exact ite_eq_right_iff.2 fun h => (if_neg fun ⟨_, hs, _⟩ => hs h.2).symm

theorem onUpdate_snd (cfg : BalCfg) (s : Store) (d : AList Int) (n : Node) (peers : List String) (now : Int)
    (fail : Nat → Bool) : (onUpdate cfg s d n peers now fail).2 =
      if n.isHost = false ∧ (cfg.interval ≤ 0 ∨ cfg.price = 0) then .error .invalidSettings
      else verdict (if charged cfg n now then cfg.minBalance else none) (spendable (billed cfg s n peers now fail) d n.id) := by
  rw [onUpdate_eq]; exact apply_ite Prod.snd ..

theorem billed_keeps {β : Type} (f : Store → β) (hf : ∀ s id amt, f (s.credit id amt) = f s)
    (cfg : BalCfg) (s : Store) (n : Node) (peers : List String) (now : Int) (fail : Nat → Bool) :
    f (billed cfg s n peers now fail) = f s := by
  unfold billed; split
  · rw [applyOp_addNodeBalance]; split <;> simp only [hf, creditPeers_keeps f hf]
  · rfl

/-- billing never creates or destroys credit when the billed node is registered: for every clock reading, price,
peer list and pattern of failing credit calls -/
theorem billed_ledger (cfg : BalCfg) (s : Store) (n : Node) (peers : List String) (now : Int) (fail : Nat → Bool)
    (hreg : (s.nodes.get n.id).isSome) : ledgerSum (billed cfg s n peers now fail) = ledgerSum s := by
  unfold billed; split
  · obtain ⟨nn, hn⟩ := Option.isSome_iff_exists.1 hreg
    simp [ledger_applyOp, opCredit, creditPeers_ledger, hn]; omega
  · rfl

end Vipnode
