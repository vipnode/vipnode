/- Floor-division arithmetic used by the billing theorems. Core Lean only. -/
import Vipnode.Model.AList
namespace Vipnode

/-- floor(a/I) + floor(b/I) ≤ floor((a+b)/I) ≤ floor(a/I) + floor(b/I) + 1, for a positive divisor -/
theorem ediv_add_bounds (a b I : Int) (hI : 0 < I) :
    a / I + b / I ≤ (a + b) / I ∧ (a + b) / I ≤ a / I + b / I + 1 := by
  rw [Int.add_ediv_of_pos hI]; split <;> omega

/-- list version: slicing a total `Σ aᵢ` into `k` pieces loses at most `k - 1` units to rounding,
and never gains -/
theorem sliced_floor_bounds (I : Int) (hI : 0 < I) (as : List Int) (hne : as ≠ []) :
    sumInts (as.map (· / I)) ≤ sumInts as / I ∧ sumInts as / I ≤ sumInts (as.map (· / I)) + (as.length - 1 : Int) := by
  induction as with
  | nil => exact absurd rfl hne
  | cons a t ih =>
    cases t with
    | nil => simp [sumInts]
    | cons b t' =>
      have ih' := ih (List.cons_ne_nil _ _)
      have hb := ediv_add_bounds a (sumInts (b :: t')) I hI
      simp only [sumInts, List.map_cons, List.foldr_cons, List.length_cons] at ih' hb ⊢
      omega

end Vipnode
