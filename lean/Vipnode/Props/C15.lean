/-
C15 — No message from the network can crash or wedge a pool or an agent.

Two parts.  (1) Theorems: the guards in vipnode's own code in front of every
panicking Go operation on received data (Model/Guards.lean), the totality and
well-formedness of request handling (Model/Server.lean), the bound on what a
peer request asks the store to allocate, the read loop never blocking on honest
traffic (C14).  (2) A differential fuzz stream that runs the real services in a
separate process, where a panic is an observable exit: that part *samples*
`encoding/json`, `reflect`, `net/url` and the go-ethereum crypto, which the
theorems do not cover.
-/
import Vipnode.Model.Guards
import Vipnode.Model.Server
import Vipnode.Props.C16
namespace Vipnode.C15
open Vipnode

/-- signature strings of any length never panic the node-signature check -/
theorem node_sig_total (sig : List UInt8) : ∀ p, nodeSigBytes sig ≠ .error p := by
  intro p
  unfold nodeSigBytes
  split
  · simp
  · rename_i h
    have : 64 ≤ sig.length := by omega
    simp [sliceTo, this]

theorem node_sig_short_refused (sig : List UInt8) (h : sig.length < 64) : nodeSigBytes sig = .ok none := by
  simp [nodeSigBytes, h]

/-- nor the wallet-signature check -/
theorem address_sig_total (sig : List UInt8) : ∀ p, addressSigV sig ≠ .error p := by
  intro p
  unfold addressSigV
  split
  · simp
  · rename_i h
    have h65 : sig.length = 65 := by simpa using h
    rw [List.getElem?_eq_getElem (show 64 < sig.length by omega)]
    simp

/-- peer descriptions with enode strings of any length never panic `EnodeID` -/
theorem enode_id_total (id enode : List Char) : ∀ p, enodeID id enode ≠ .error p := by
  intro p
  unfold enodeID
  split
  · simp
  · rename_i h
    have : 8 + 128 ≤ enode.length := by omega
    simp [sliceFromTo, this]

/-- any reply shape is handled by a waiting caller without a panic -/
theorem call_total (s : ReplyShape) : ∀ p, callReturn s ≠ .error p := by
  intro p; cases s <;> simp [callReturn]

/-- **what a peer request makes the store allocate is never negative**: the limit passed to `ActiveHosts` is
positive whenever the store is asked at all (non-positive requests return before) -/
theorem active_hosts_limit_positive (p : Pool) (id : String) (num : Int) (l : Int)
    (h : p.activeHostsLimit id num = some l) : 0 < l := by
  unfold Pool.activeHostsLimit at h
  simp only at h
  split at h
  · cases h
  · split at h
    · cases h
    · cases h; omega

/-- and the memory driver's allocation is bounded by its own table, whatever count the request names -/
theorem active_hosts_alloc_bounded (limit : Int) (tableSize : Nat) (h : 0 ≤ limit) :
    ∃ c, activeHostsCap limit tableSize = .ok c ∧ c ≤ tableSize := by
  unfold activeHostsCap
  have : ¬ limit < 0 := by omega
  simp only [this, if_false]
  exact ⟨_, rfl, Nat.min_le_right _ _⟩

/-- **every request is answered, with a result or an error, and nothing else happens**: `Server.Handle` is total and
classifies every request shape into exactly one reply class; only a well-typed call to a registered method runs code -/
theorem reply_well_formed (reg : AList Method) (isRequest : Bool) (name : String) (ps : Params) :
    let (reply, ran) := handle reg isRequest name ps
    (reply = .result ∨ reply = .methodNotFound ∨ reply = .invalidParams ∨ reply = .internalError ∨ reply = .invalidRequest) ∧
    (ran = true → isRequest = true ∧ ∃ m, reg.get name = some m ∧ parsePositional ps m.types = true) := by
  rcases hout : handle reg isRequest name ps with ⟨reply, ran⟩
  refine ⟨by cases reply <;> simp, ?_⟩
  rintro rfl
  cases isRequest with
  | false => cases hout
  | true => exact ⟨rfl, C16.runs_only_if_well_typed reg name ps (by rw [hout])⟩

/-- witnesses of the repaired defects: the unguarded operations do panic -/
theorem old_guards_counterexample :
    sliceTo ([1, 2, 3] : List UInt8) 64 = .error .sliceOutOfRange ∧
    activeHostsCap (-5) 10 = .error .makeslice := ⟨rfl, rfl⟩

end Vipnode.C15
