/-
C11 — Peers that stop checking in are declared invalid and dropped; live ones never.

Theorems about `Store.updateNodePeers` (both drivers' `UpdateNodePeers`) and
about how the keep-alive endpoint maps its result into the reply.
-/
import Vipnode.Lemmas.Pool
namespace Vipnode.C11
open Vipnode Vipnode.AList
open Vipnode.Store (refreshPeers updateNodePeers trackedPeers nodePeers applyOp)

/-- the timestamp recorded for `p` after processing the report: the peer's own `LastSeen` if it is a
registered node that was reported, otherwise whatever was tracked before -/
theorem refreshPeers_get (nodes : AList Node) (tracked : AList Int) (reported : List String) (p : String) :
    (refreshPeers nodes tracked reported).get p =
      if p ∈ reported then
        match nodes.get p with
        | some pn => some pn.lastSeen
        | none => tracked.get p
      else tracked.get p := by
  induction reported generalizing tracked with
  | nil => simp [refreshPeers]
  | cons q qs ih =>
    unfold refreshPeers
    by_cases e : p = q
    · subst e; cases hq : nodes.get p <;> simp [ih, hq, get_set_eq]
    · cases nodes.get q <;> simp [ih, e, get_set_ne _ _ (Ne.symm e)]

/-- ids the pool does not know are never tracked -/
theorem unknown_never_tracked (nodes : AList Node) (tracked : AList Int) (reported : List String) (p : String)
    (hu : nodes.get p = none) (ht : tracked.get p = none) : (refreshPeers nodes tracked reported).get p = none := by
  rw [refreshPeers_get]; simp [hu, ht]

/-- reporting a peer twice is the same as reporting it once -/
theorem duplicates_idempotent (nodes : AList Node) (tracked : AList Int) (reported : List String) (p q : String) :
    (refreshPeers nodes tracked (q :: q :: reported)).get p = (refreshPeers nodes tracked (q :: reported)).get p := by
  rw [refreshPeers_get, refreshPeers_get]; simp

theorem mem_filter_keys {α : Type} (l : AList α) (f : String × α → Bool) (hn : NoDupKeys l) (k : String) :
    k ∈ (l.filter f).map (·.1) ↔ ∃ v, l.get k = some v ∧ f (k, v) = true := by
  rw [show (l.filter f).map (·.1) = keys (l.filter f) from rfl, mem_keys_iff, get_filter l hn]
  cases l.get k <;> simp [Option.filter]

/-- the tracked-peer table of a node has distinct keys in every well-formed store (built by `set`) -/
def PeersWF (s : Store) : Prop := ∀ id, NoDupKeys (s.trackedPeers id)

theorem noDup_refresh (nodes : AList Node) (tracked : AList Int) (reported : List String) (h : NoDupKeys tracked) :
    NoDupKeys (refreshPeers nodes tracked reported) := by
  induction reported generalizing tracked with
  | nil => exact h
  | cons q qs ih =>
    unfold refreshPeers
    split
    · exact ih _ (noDup_set _ _ _ h)
    · exact ih _ h

/-- a keep-alive splits the refreshed table at `now − W`: the entries not newer than that are declared inactive,
the others are what stays tracked -/
theorem checkIn_partition (s : Store) (id : String) (n : Node) (reported : List String) (block : Nat) (now : Int)
    (hwf : NoDupKeys (s.trackedPeers id)) (p : String) :
    (p ∈ (s.checkIn id n reported block now).2 ↔
      ∃ ts, (refreshPeers (s.nodes.set id { n with lastSeen := now, block := block }) (s.trackedPeers id) reported).get p = some ts ∧
        ts ≤ now - W) ∧
    (p ∈ ((s.checkIn id n reported block now).1.trackedPeers id).map (·.1) ↔
      ∃ ts, (refreshPeers (s.nodes.set id { n with lastSeen := now, block := block }) (s.trackedPeers id) reported).get p = some ts ∧
        now - W < ts) := by
  have hnd := noDup_refresh (s.nodes.set id { n with lastSeen := now, block := block }) _ reported hwf
  simp only [trackedPeers] at hnd ⊢
  simp only [Store.checkIn, get_set_eq, Option.getD_some, mem_filter_keys _ _ hnd, decide_eq_true_eq, and_self]

/-- **declared invalid exactly if** the peer is reported now or still tracked, and its own last check-in —
as recorded the last time the node reported it — is not newer than `now − W` -/
theorem invalid_iff (s s' : Store) (id : String) (reported : List String) (block : Nat) (now : Int)
    (inactive : List String) (hwf : NoDupKeys (s.trackedPeers id))
    (h : s.updateNodePeers id reported block now = .ok (s', inactive)) (p : String) :
    p ∈ inactive ↔
      ∃ n ts, s.nodes.get id = some n ∧
        (refreshPeers (s.nodes.set id { n with lastSeen := now, block := block }) (s.trackedPeers id) reported).get p = some ts ∧
        ts ≤ now - W := by
  obtain ⟨n, hn, e⟩ := Store.updateNodePeers_ok_iff.1 h
  obtain rfl : inactive = (s.checkIn id n reported block now).2 := congrArg Prod.snd e
  rw [(checkIn_partition s id n reported block now hwf p).1]
  constructor
  · rintro ⟨ts, h1, h2⟩; exact ⟨n, ts, hn, h1, h2⟩
  · rintro ⟨n', ts, h0, h1, h2⟩; cases hn.symm.trans h0; exact ⟨ts, h1, h2⟩

/-- every other tracked peer stays in the active set; declared-invalid ones are forgotten -/
theorem active_after (s s' : Store) (id : String) (reported : List String) (block : Nat) (now : Int)
    (inactive : List String) (hwf : NoDupKeys (s.trackedPeers id))
    (h : s.updateNodePeers id reported block now = .ok (s', inactive)) (p : String) :
    (p ∈ (s'.trackedPeers id).map (·.1) ↔
      ∃ n ts, s.nodes.get id = some n ∧
        (refreshPeers (s.nodes.set id { n with lastSeen := now, block := block }) (s.trackedPeers id) reported).get p = some ts ∧
        now - W < ts) ∧
    (p ∈ inactive → p ∉ (s'.trackedPeers id).map (·.1)) := by
  obtain ⟨n, hn, e⟩ := Store.updateNodePeers_ok_iff.1 h
  obtain rfl : s' = (s.checkIn id n reported block now).1 := congrArg Prod.fst e
  obtain rfl : inactive = (s.checkIn id n reported block now).2 := congrArg Prod.snd e
  obtain ⟨hinact, htracked⟩ := checkIn_partition s id n reported block now hwf p
  rw [hinact, htracked]
  refine ⟨⟨?_, ?_⟩, ?_⟩
  · rintro ⟨ts, h1, h2⟩; exact ⟨n, ts, hn, h1, h2⟩
  · rintro ⟨n', ts, h0, h1, h2⟩; cases hn.symm.trans h0; exact ⟨ts, h1, h2⟩
  · -- the same entry cannot lie on both sides of `now − W`
    rintro ⟨ts, h1, h2⟩ ⟨ts', h1', h2'⟩
    cases h1.symm.trans h1'; exact Int.not_le.2 h2' h2

/-- **a live peer is never declared invalid**: a registered peer (other than the node itself) that is
reported in this keep-alive and whose own last check-in is within the window is not declared invalid -/
theorem live_never_invalid (s s' : Store) (id : String) (reported : List String) (block : Nat) (now : Int)
    (inactive : List String) (hwf : NoDupKeys (s.trackedPeers id))
    (h : s.updateNodePeers id reported block now = .ok (s', inactive)) (p : String) (pn : Node)
    (hne : p ≠ id) (hrep : p ∈ reported) (hreg : s.nodes.get p = some pn) (hlive : now - W < pn.lastSeen) :
    p ∉ inactive := by
  intro hin
  obtain ⟨n, ts, h0, h1, h2⟩ := (invalid_iff s s' id reported block now inactive hwf h p).1 hin
  rw [refreshPeers_get, if_pos hrep, get_set_ne _ _ (Ne.symm hne), hreg] at h1
  cases h1; exact Int.not_le.2 hlive h2

/-- the node's own entry, if it reports itself, carries the fresh `now`: it is never declared invalid either -/
theorem self_report_never_invalid (s s' : Store) (id : String) (reported : List String) (block : Nat) (now : Int)
    (inactive : List String) (hwf : NoDupKeys (s.trackedPeers id)) (hW : 0 < W)
    (h : s.updateNodePeers id reported block now = .ok (s', inactive)) (hrep : id ∈ reported) : id ∉ inactive := by
  intro hin
  obtain ⟨n, ts, h0, h1, h2⟩ := (invalid_iff s s' id reported block now inactive hwf h id).1 hin
  rw [refreshPeers_get, if_pos hrep, get_set_eq] at h1
  cases h1; exact Int.not_le.2 (Int.sub_lt_self now hW) h2

theorem window_positive : 0 < W := by decide

/-- the keep-alive endpoint reports exactly the store's verdict: `InvalidPeers` are the peers declared inactive,
`ActivePeers` the URIs of the peers still tracked -/
theorem pool_reply_maps (p p1 : Pool) (sigOk : Bool) (id : String) (nonce : Int) (reported : List String)
    (block : Nat) (now mnow : Int) (fail : Nat → Bool) (before : Node) (s2 : Store) (inactive : List String)
    (active : List Node) (u : Pool.UpdateResp)
    (hv : p.verify sigOk id nonce now = .ok p1)
    (hb : p1.store.getNode id = .ok before)
    (hu : p1.store.updateNodePeers id reported block now = .ok (s2, inactive))
    (ha : s2.nodePeers id = .ok active)
    (hr : (p.Update sigOk id nonce reported block now mnow fail).2.1 = .ok u) :
    u.invalid = inactive ∧ u.active = active.map (·.uri) ∧ u.activeIds = active.map (·.id) := by
  unfold Pool.Update at hr
  simp only [hv, hb, hu, ha] at hr
  generalize Pool.managerOnUpdate { p1 with store := s2 } before (active.map (·.id)) mnow fail = mo at hr
  obtain ⟨s3, r⟩ := mo
  simp only at hr
  split at hr
  · cases hr
  · cases hr
  · cases hr; exact ⟨rfl, rfl, rfl⟩

/-- non-vacuity: h1 keeps checking in and is kept; h2 stopped 121 s ago and is declared invalid and forgotten;
a stranger is never tracked -/
example :
    let s := Store.run Store.empty [.setNode { id := "c" }, .setNode { id := "h1", isHost := true, lastSeen := 1000000000000 },
      .setNode { id := "h2", isHost := true, lastSeen := 879000000000 }]
    (match s.updateNodePeers "c" ["h1", "h2", "stranger"] 1 1000000000000 with
     | .ok (s', inactive) => (inactive, (s'.trackedPeers "c").map (·.1))
     | .error _ => ([], [])) = (["h2"], ["h1"]) := by decide +kernel

theorem peersWF_applyOp (s : Store) (op : Store.Op) (h : PeersWF s) : PeersWF (applyOp s op) := by
  refine Store.applyOp_cases h ?setNode ?unp ?credit ?addAccountBalance ?link ?nonce op
  case setNode => exact fun n _ => h
  case unp =>
    intro i n r b now _ id
    simp only [trackedPeers, Store.checkIn]
    by_cases e : i = id
    · subst e; rw [get_set_eq]; exact noDup_filter _ (noDup_refresh _ _ _ (h i)) _
    · rw [get_set_ne _ _ e]; exact h id
  case credit =>
    intro i amt _ id
    simp only [trackedPeers, Store.credit_peers]; exact h id
  case addAccountBalance => exact fun a amt => h
  case link => exact fun a i _ => h
  case nonce => exact fun i n => h

/-- the side condition `hwf` of the theorems above holds in every reachable store -/
theorem peersWF_reachable (ops : List Store.Op) : PeersWF (Store.run Store.empty ops) :=
  List.foldlRecOn ops applyOp (fun id => by simp [trackedPeers, Store.empty, NoDupKeys, keys])
    fun s h op _ => peersWF_applyOp s op h

end Vipnode.C11
