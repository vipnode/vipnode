/-
C12 (key spaces) — the badger driver keeps its six tables and its format marker in one key-value store, telling them
apart by key prefix.  `Model/Drivers.lean` and `Model/Store.lean` model them as separate tables; that is sound
because no key of one space can equal a key of another, whatever the node ids and wallet names are.  The prefixes are
regenerated from the driver's source on every run (`Facts.badgerKeySpaces`).
-/
import Vipnode.Generated.Facts
namespace Vipnode.C12K

def isPrefixB (p q : List Char) : Bool := p.isPrefixOf q

/-- a key as the store sees it.  Bytes, not characters: the kernel has a string literal as `String.ofList` of its
characters, and encoding those is several times cheaper for it than decoding them again with `String.toList` -/
def bytes (s : String) : List UInt8 := s.toByteArray.data.toList

theorem bytes_append (s t : String) : bytes (s ++ t) = bytes s ++ bytes t := by
  simp only [bytes, String.toByteArray_append, ByteArray.data_append, Array.toList_append]

/-- pairwise: no key space's prefix is a prefix of another's (decided on the regenerated list) -/
theorem badger_key_spaces_prefix_free :
    (Facts.badgerKeySpaces.map bytes).Pairwise (fun p q => ¬ p <+: q ∧ ¬ q <+: p) := by decide +kernel

/-- the documented layout is what the source contains -/
theorem badger_key_spaces_are :
    Facts.badgerKeySpaces = ["vip:account:", "vip:balance:", "vip:node:", "vip:nonce:", "vip:peers:", "vip:trial:", "vip:version"] :=
  rfl

/-- **keys of different key spaces never collide**, whatever is appended to the prefixes (node ids, wallet names of
any content - colons, other prefixes, the empty string) -/
theorem key_spaces_disjoint (p q : String) (hp : p ∈ Facts.badgerKeySpaces) (hq : q ∈ Facts.badgerKeySpaces) (hne : p ≠ q)
    (x y : String) : p ++ x ≠ q ++ y := by
  intro h
  have hb : bytes p ++ bytes x = bytes q ++ bytes y := by rw [← bytes_append, ← bytes_append, h]
  -- both prefixes start the same byte string, so one is a prefix of the other
  have hpq : bytes p <+: bytes q ∨ bytes q <+: bytes p :=
    List.prefix_or_prefix_of_prefix (List.prefix_append _ (bytes x)) (hb ▸ List.prefix_append _ (bytes y))
  -- the table is checked for pairs in list order; `p`, `q` may come in either
  let R (p q : String) : Prop := p ≠ q → ¬ bytes p <+: bytes q ∧ ¬ bytes q <+: bytes p
  have hfree := List.pairwise_map.1 badger_key_spaces_prefix_free
  have := List.Pairwise.forall_of_forall_of_flip (fun _ _ h => (h rfl).elim) (hfree.imp (S := R) fun h _ => h)
    (hfree.imp (S := flip R) fun h _ => h.symm) hp hq hne
  exact hpq.elim this.1 this.2

end Vipnode.C12K
