/-
C14/C15 — the end of a connection (`Remote.endServe`, the `<-r.servedChan()` arm of `receiveFrom`).

When the read loop of a connection returns, nothing will ever be delivered again.  These theorems say what the
callers that are still waiting see, for every state an honest run can reach and every number of calls in progress:
none of them stays pending, a reply that had already been delivered is still the one its caller returns, and the
bookkeeping invariant of `Props/C14.lean` survives.
-/
import Vipnode.Props.C14
namespace Vipnode.C14
open Vipnode Vipnode.Rpc

theorem foldl_observeEnd_ended (ids : List Nat) (r : Rpc) : (ids.foldl observeEnd r).ended = r.ended := by
  induction ids generalizing r with
  | nil => rfl
  | cons i t ih => rw [List.foldl_cons, ih, observeEnd_ended]

theorem foldl_observeEnd_live (ids : List Nat) (r : Rpc) (he : r.ended = true) :
    (ids.foldl observeEnd r).live = r.live.filter (fun c => !ids.contains c.id) := by
  induction ids generalizing r with
  | nil => exact (List.filter_eq_self.2 fun _ _ => rfl).symm
  | cons i t ih =>
    rw [List.foldl_cons, ih _ (by rw [observeEnd_ended]; exact he), observeEnd_live r i he, List.filter_filter]
    exact List.filter_congr fun c _ => by rw [List.contains_cons, Bool.not_or, Bool.and_comm]; rfl

theorem foldl_observeEnd_finished_mono (ids : List Nat) (r : Rpc) :
    ∀ x ∈ r.finished, x ∈ (ids.foldl observeEnd r).finished := by
  induction ids generalizing r with
  | nil => intro x hx; exact hx
  | cons i t ih => intro x hx; exact ih _ x (observeEnd_finished_mono r i x hx)

/-- **no call outlives its connection**: once the read loop has ended and the callers in progress have looked,
none of them is still waiting — however many there were, whatever state the table was in (the repaired defect
`76e57ed`: before it, `receiveFrom` had no arm for this and every one of them waited forever) -/
theorem end_releases_every_call (r : Rpc) : r.serveEnd.releaseAll.live = [] := by
  rw [releaseAll, foldl_observeEnd_live _ _ rfl, List.filter_eq_nil_iff]
  intro c hc
  rw [List.contains_iff_mem.2 (List.mem_map_of_mem hc)]
  exact Bool.false_ne_true

/-- **a delivered reply survives the end of the connection**: the reply to a live plain call that reached its slot
before the read loop ended is what the call returns -/
theorem end_keeps_delivered_reply (g : G) (c : LiveCall) (s : Slot) (m : RpcReply) (h : Inv g) (he : g.r.ended = true)
    (hc : c ∈ g.r.live) (hplain : ∀ hd ∈ g.r.handlers, hd.callId ≠ c.id)
    (hs : s ∈ g.r.pending) (hid : s.id = c.id) (hbuf : s.buf = some m) :
    (g.r.observeEnd c.id).finished = g.r.finished ++ [(c.token, resultOf m)] := by
  rw [observeEnd_plain g.r c he h.live_nodup hc hplain, slot?_of_mem _ h.nodup s hs hid, Option.bind_some, hbuf]

/-- **a call that has no reply when its connection ends fails with the connection's error** — it does not hang,
and it does not invent a result -/
theorem end_without_reply_fails (g : G) (c : LiveCall) (s : Slot) (h : Inv g) (he : g.r.ended = true)
    (hc : c ∈ g.r.live) (hplain : ∀ hd ∈ g.r.handlers, hd.callId ≠ c.id)
    (hs : s ∈ g.r.pending) (hid : s.id = c.id) (hbuf : s.buf = none) :
    (g.r.observeEnd c.id).finished = g.r.finished ++ [(c.token, .closed)] := by
  rw [observeEnd_plain g.r c he h.live_nodup hc hplain, slot?_of_mem _ h.nodup s hs hid, Option.bind_some, hbuf]

/-- every plain call that looks gets what `observeEnd_plain` says of the state at the end, whoever looks before it -/
theorem foldl_observeEnd_result (ids : List Nat) (r : Rpc) (c : LiveCall) (he : r.ended = true)
    (hnd : (r.live.map (·.id)).Nodup) (hc : c ∈ r.live) (hplain : ∀ hd ∈ r.handlers, hd.callId ≠ c.id)
    (hin : c.id ∈ ids) :
    (c.token, match (r.slot? c.id).bind (·.buf) with | some m => resultOf m | none => .closed) ∈
      (ids.foldl observeEnd r).finished := by
  induction ids generalizing r with
  | nil => cases hin
  | cons i t ih =>
    rw [List.foldl_cons]
    by_cases hi : i = c.id
    · subst hi
      refine foldl_observeEnd_finished_mono t _ _ ?_
      rw [observeEnd_plain r c he hnd hc hplain]; exact List.mem_append_right _ (List.mem_singleton.2 rfl)
    · have hl := observeEnd_live r i he
      rw [← observeEnd_slot? r i c.id (Ne.symm hi)]
      refine ih (r.observeEnd i) (by rw [observeEnd_ended]; exact he) ?_ ?_ ?_
        ((List.mem_cons.1 hin).resolve_left (Ne.symm hi))
      · rw [hl]; exact (List.filter_sublist.map _).nodup hnd
      · rw [hl, List.mem_filter]; exact ⟨hc, by simpa using Ne.symm hi⟩
      · intro hd hdm; exact hplain hd (observeEnd_handlers r i hd hdm)

/-- **every call returns**: for every state an honest run reaches, once the connection ends every plain call in
progress has a result (its own delivered reply, or the connection's error) -/
theorem end_every_call_returns (limit discard : Nat) (evs : List Ev)
    (hon : HonestRun { r := { limit := limit, discard := discard } } evs) :
    let g := evs.foldl step { r := { limit := limit, discard := discard } }
    ∀ c ∈ g.r.live, (∀ hd ∈ g.r.handlers, hd.callId ≠ c.id) →
      ∃ res, (c.token, res) ∈ g.r.serveEnd.releaseAll.finished := by
  intro g c hc hplain
  have hinv := inv_run _ evs (inv_init limit discard) hon
  exact ⟨_, foldl_observeEnd_result _ g.r.serveEnd c rfl hinv.live_nodup hc hplain (List.mem_map.2 ⟨c, hc, rfl⟩)⟩

/-- the bookkeeping invariant survives the end: a caller observing it removes exactly its own slot and call -/
theorem inv_observeEnd (g : G) (id : Nat) (h : Inv g) : Inv { g with r := g.r.observeEnd id } := by
  rcases observeEnd_cases g.r id with ⟨e, _⟩ | ⟨_, c, _, e⟩ <;> rw [e]
  · exact h
  · exact inv_finish g id _ _ h

theorem inv_serveEnd (g : G) (h : Inv g) : Inv { g with r := g.r.serveEnd } := h

/-- non-vacuity: two calls in progress, one already answered; the connection ends; both return, the answered one
with its reply -/
example :
    let r0 : Rpc := {}
    let r1 := (r0.callBegin "a" "echo" "x").1
    let r2 := (r1.callBegin "b" "echo" "y").1
    let r3 := (r2.deliverReply 1 (.result "pa")).getD r2
    r3.serveEnd.releaseAll.finished = [("a", .returned "pa"), ("b", .closed)] ∧ r3.serveEnd.releaseAll.live = [] ∧
      r3.serveEnd.releaseAll.pending = [] := by decide +kernel

/-! ### replies nobody asked for

A reply whose id has no slot, or whose slot is empty (a late answer to a call that gave up, an answer under an id
that was never issued), is parked in a one-message slot: the read loop goes on, and so it still sees the connection
end (`strayclose`, seeded change C09-r5 made the slots zero-message).  A *second* reply under the same id finds the
slot full: that one does block the loop — the flood C15 sets aside. -/

/-- **one stray reply never blocks the read loop** -/
theorem stray_reply_never_blocks (r : Rpc) (id : Nat) (m : RpcReply) (hn : NodupIds r.pending)
    (hfree : ∀ s ∈ r.pending, s.id = id → s.buf = none) : (r.deliverReply id m).isSome = true := by
  obtain ⟨s1, ⟨s, hs, hid, _⟩, _, s4⟩ := pendingChan_spec r id false hn
  have hnone : s.buf = none := by
    rcases s4 s hs with ⟨_, hb⟩ | ⟨s0, hs0, hid0, hb0⟩
    · exact hb
    · rw [← hb0]; exact hfree s0 hs0 (hid0.trans hid)
  rw [deliverReply_free r id m s (slot?_of_mem _ s1 s hs hid) hnone]; rfl

/-- the excluded flood, on the smallest state: two unsolicited replies under one id; the second finds the slot full -/
theorem duplicate_stray_reply_blocks :
    let r0 : Rpc := {}
    ((r0.deliverReply 7 (.result "x")).bind (fun r1 => r1.deliverReply 7 (.result "y"))) = none := by decide

end Vipnode.C14
