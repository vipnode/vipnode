/-
C13 — The persistent store keeps every acknowledged change across restarts and crashes.
-/
import Vipnode.Model.Persist
import Vipnode.Props.C12
namespace Vipnode.C13
open Vipnode Vipnode.AList
open Vipnode.Store (applyOp ledgerSum)

/-! ### migration -/

/-- `migrate` in closed form: refused above the current format, else the current format with the nonce table dropped
on the way from formats 0 and 1 -/
theorem migrate_eq (d : Disk) : migrate d =
    if latestVersion < d.version then .error .newer
    else .ok { version := latestVersion, store := if d.version = latestVersion then d.store else { d.store with nonces := [] } } := by
  obtain ⟨v, s⟩ := d
  match v with
  | 0 | 1 | 2 => rfl
  | n + 3 => simp [migrate, latestVersion]

theorem migrate_version {d d' : Disk} (h : migrate d = .ok d') : d'.version = latestVersion := by
  rw [migrate_eq] at h; split at h <;> cases h; rfl

/-- reopening a database of the current format changes nothing -/
theorem migrate_current_identity (d : Disk) (h : d.version = latestVersion) : migrate d = .ok d := by
  simp [migrate, h]

/-- a database written by a newer version is refused and left untouched (no result image) -/
theorem migrate_newer_refused (d : Disk) (h : latestVersion < d.version) : migrate d = .error .newer := by
  rw [migrate_eq, if_pos h]

/-- **older formats are migrated without touching balances or nodes**: from every supported version the result is
at the current version and nodes, peers, wallet links, balances and trial balances are unchanged (format 1→2 drops
the nonce table, nothing else) -/
theorem migrate_preserves (d : Disk) (h : d.version ≤ latestVersion) :
    ∃ d', migrate d = .ok d' ∧ d'.version = latestVersion ∧ d'.store.nodes = d.store.nodes ∧ d'.store.peers = d.store.peers ∧
      d'.store.accounts = d.store.accounts ∧ d'.store.balances = d.store.balances ∧ d'.store.trials = d.store.trials ∧
      (d.version = latestVersion → d'.store.nonces = d.store.nonces) := by
  rw [migrate_eq, if_neg (Nat.not_lt.2 h)]
  refine ⟨_, rfl, rfl, ?_⟩
  split <;> simp [*]

theorem migrate_idempotent (d d' : Disk) (h : migrate d = .ok d') : migrate d' = .ok d' :=
  migrate_current_identity d' (migrate_version h)

/-! ### restarts and crashes -/

theorem run_snoc (s : Store) (ops : List Store.Op) (op : Store.Op) :
    Store.run s (ops ++ [op]) = applyOp (Store.run s ops) op := by
  simp [Store.run]

/-- what a run leaves on disk: the opened image with the acknowledged operations applied, and the one in flight if
badger had committed it -/
theorem runProcess_ok {d : Disk} {ops : List Store.Op} {inflight : Option (Store.Op × Bool)} {d1 : Disk} :
    runProcess d ops inflight = .ok d1 → ∃ d0, openDisk d = .ok d0 ∧ d1 = { d0 with store := match inflight with
      | some (op, true) => Store.run d0.store (ops ++ [op])
      | _ => Store.run d0.store ops } := by
  intro h
  unfold runProcess at h
  cases hm : openDisk d with
  | error e => rw [hm] at h; cases h
  | ok d0 =>
    rw [hm] at h; cases h
    refine ⟨d0, rfl, ?_⟩
    match inflight with
    | some (op, true) => simp only [run_snoc]
    | some (op, false) => rfl
    | none => rfl

/-- **close and reopen**: a clean restart reads back exactly what was acknowledged -/
theorem reopen_identity (d : Disk) (ops : List Store.Op) (d1 : Disk)
    (h : runProcess d ops none = .ok d1) : runProcess d1 [] none = .ok d1 := by
  obtain ⟨d0, ho, rfl⟩ := runProcess_ok h
  -- the image is at the current format, so opening it migrates nothing
  simp [runProcess, openDisk, migrate_current_identity, migrate_version ho, Store.run]

/-- **a crash is all-or-nothing per operation**: killed while operation `op` is in flight (after `ops` were
acknowledged), the restarted process sees the state after `ops` or after `ops ++ [op]`, never anything in between -/
theorem txn_all_or_nothing (d : Disk) (ops : List Store.Op) (op : Store.Op) (committed : Bool) (d1 : Disk)
    (h : runProcess d ops (some (op, committed)) = .ok d1) :
    runProcess d ops none = .ok d1 ∨ runProcess d (ops ++ [op]) none = .ok d1 := by
  obtain ⟨d0, ho, rfl⟩ := runProcess_ok h
  cases committed
  · exact .inl (by simp [runProcess, ho])
  · exact .inr (by simp [runProcess, ho])

/-- acknowledged operations are never lost by a crash: the recovered state extends the acknowledged history -/
theorem acknowledged_survive (d : Disk) (ops : List Store.Op) (inflight : Option (Store.Op × Bool)) (d1 : Disk)
    (h : runProcess d ops inflight = .ok d1) :
    ∃ d0, openDisk d = .ok d0 ∧ (d1.store = Store.run d0.store ops ∨ ∃ op, d1.store = applyOp (Store.run d0.store ops) op) := by
  obtain ⟨d0, ho, rfl⟩ := runProcess_ok h
  refine ⟨d0, ho, ?_⟩
  split
  · rename_i op; exact .inr ⟨op, run_snoc ..⟩
  · exact .inl rfl

/-- what the kill-and-reopen stream checks: a process that runs the script `all` and is killed after completing
`k` operations, of which the parent had seen `a ≤ k` acknowledged, restarts in the state after a prefix of the
script that contains every acknowledged operation - `a ≤ k' ≤ length all` and no torn operation -/
theorem recovered_is_prefix_beyond_acked (d : Disk) (all : List Store.Op) (a k : Nat) (committed : Bool) (d1 : Disk)
    (hak : a ≤ k) (hk : k ≤ all.length)
    (h : runProcess d (all.take k) ((all[k]?).map (fun op => (op, committed))) = .ok d1) :
    ∃ d0 k', openDisk d = .ok d0 ∧ a ≤ k' ∧ k' ≤ all.length ∧ d1.store = Store.run d0.store (all.take k') := by
  obtain ⟨d0, ho, rfl⟩ := runProcess_ok h
  split
  · rename_i op hop
    obtain ⟨op', hk', e⟩ := Option.map_eq_some_iff.1 hop
    cases e
    have hlt : k < all.length := (List.getElem?_eq_some_iff.1 hk').1
    exact ⟨d0, k + 1, ho, Nat.le_succ_of_le hak, hlt, by rw [List.take_add_one, hk']; rfl⟩
  · exact ⟨d0, k, ho, hak, hk, rfl⟩

/-! ### the multi-key operation: migrating a trial balance -/

/-- a node linked to a wallet has no trial balance left -/
def LinkedHasNoTrial (s : Store) : Prop := ∀ id, (s.accounts.get id).isSome = true → s.trials.get id = none

theorem linked_no_trial_step (s : Store) (op : Store.Op) (hw : C12.WF s) (h : LinkedHasNoTrial s) :
    LinkedHasNoTrial (applyOp s op) := by
  obtain ⟨-, -, -, hnd, -⟩ := hw
  refine Store.applyOp_cases h ?setNode ?unp ?credit ?addAccountBalance ?link ?nonce op
  case setNode => exact fun n _ => h
  case unp => exact fun id n r b now _ => h
  case credit =>
    intro id amt _ i
    unfold Store.credit; split
    · exact h i
    · next hl =>
      -- a trial entry appears, for a node that has no link
      simp only [get_set]; split
      · next e => subst e; simp [hl]
      · exact h i
  case addAccountBalance => exact fun a amt => h
  case link =>
    intro a id _ i
    -- the link removes the trial entry
    simp only [Store.link, get_set]; split
    · next e => subst e; exact fun _ => get_del_self _ _ hnd
    · next e => rw [get_del_ne _ e]; exact h i
  case nonce => exact fun id n => h

/-- **a trial balance is never both migrated and kept, nor lost**: in every state a reader can observe (every
committed state), a linked node has no trial entry, and linking changed the ledger total by nothing -/
theorem trial_never_both_nor_lost (ops : List Store.Op) :
    LinkedHasNoTrial (Store.run Store.empty ops) ∧
    ∀ a id s', (Store.run Store.empty ops).addAccountNode a id = .ok s' → ledgerSum s' = ledgerSum (Store.run Store.empty ops) := by
  constructor
  · exact (List.foldlRecOn ops applyOp (motive := fun s => C12.WF s ∧ LinkedHasNoTrial s)
      ⟨C12.wf_empty, fun _ h => by simp [Store.empty] at h⟩
      fun s h op _ => ⟨C12.wf_applyOp s op h.1, linked_no_trial_step s op h.1 h.2⟩).2
  · intro a id s' h; obtain ⟨-, rfl⟩ := Store.addAccountNode_ok_iff.1 h; exact Store.ledger_link _ a id

/-- non-vacuity: a version-1 database with nonces, a node and a balance is migrated; the balance survives -/
example :
    let d : Disk := { version := 1, store := Store.run Store.empty [.setNode { id := "a" }, .addNodeBalance "a" 7, .nonce "a" 1000000000000 1000000000000] }
    (migrate d).toOption.map (fun d' => (d'.version, d'.store.nonces.length, (d'.store.nodeBalance "a").credit)) = some (2, 0, 7) := by decide +kernel

end Vipnode.C13
