/-
C13 / C10 (link race) — credits to a node racing with the linking of that node to a wallet: in every order of the
atomic store operations, every acknowledged credit ends up in the balance the node spends from afterwards.
-/
import Vipnode.Lemmas.Store
namespace Vipnode.C13L
open Vipnode Vipnode.AList Vipnode.Store

/-- what node `id` can spend, counting the wallet `a` it is being linked to: before the link the trial credit plus
what the wallet already holds, after it the wallet's credit -/
def potential (s : Store) (a id : String) : Int :=
  match s.accounts.get id with
  | some _ => ((s.balances.get a).getD {}).credit
  | none => ((s.trials.get id).getD {}).credit + ((s.balances.get a).getD {}).credit

/-- the operations of the race: credits to `id` and links of `id` to `a` -/
def raceOp (a id : String) : Op → Prop
  | .addNodeBalance i _ => i = id
  | .addAccountNode a' i => a' = a ∧ i = id
  | _ => False

def credited (id : String) : Op → Int
  | .addNodeBalance i amt => if i = id then amt else 0
  | _ => 0

/-- linked-to-`a` or unlinked: the node is never linked to another wallet during the race -/
def LinkInv (s : Store) (a id : String) : Prop :=
  (∃ n, s.nodes.get id = some n) ∧ NoDupKeys s.trials ∧
  (s.accounts.get id = none ∨ (s.accounts.get id = some a ∧ s.trials.get id = none))

theorem step (s : Store) (a id : String) (op : Op) (h : LinkInv s a id) (hop : raceOp a id op) :
    LinkInv (applyOp s op) a id ∧ potential (applyOp s op) a id = potential s a id + credited id op := by
  obtain ⟨hn, hnd, hl⟩ := h
  have hreg : s.nodes.get id ≠ none := fun e => by simp [e] at hn
  cases op with
  | addNodeBalance i amt =>
    obtain rfl : i = id := hop
    rw [applyOp_addNodeBalance, if_neg hreg]
    -- the credit goes to the trial balance before the link, to the wallet after it
    rcases hl with hl | ⟨hl, ht⟩ <;> simp only [credit, hl, potential, credited, if_true, get_set_eq, Option.getD_some]
    · exact ⟨⟨hn, noDup_set _ _ _ hnd, .inl hl⟩, Int.add_right_comm ..⟩
    · exact ⟨⟨hn, hnd, .inr ⟨hl, ht⟩⟩, trivial⟩
  | addAccountNode a' i =>
    obtain ⟨rfl, rfl⟩ : a' = a ∧ i = id := hop
    rw [applyOp_addAccountNode, if_neg hreg]
    refine ⟨⟨hn, noDup_del _ _ hnd, .inr ⟨get_set_eq _ _ _, get_del_self _ _ hnd⟩⟩, ?_⟩
    simp only [potential, link, credited, get_set_eq, Option.getD_some, Int.add_zero]
    -- linking again merges nothing twice: the trial entry is gone
    rcases hl with hl | ⟨hl, ht⟩ <;> simp only [hl]
    · exact Int.add_comm ..
    · rw [ht]; exact Int.add_zero _
  | setNode _ => exact hop.elim
  | unp _ _ _ _ => exact hop.elim
  | addAccountBalance _ _ => exact hop.elim
  | nonce _ _ _ => exact hop.elim

/-- **no acknowledged credit is lost to a racing link**: for every order of the atomic store operations of the race
(any number of credits to the node, any number of links of it to the wallet, interleaved in any way), what the node
can spend afterwards is what it could spend before plus every credit -/
theorem link_race_no_lost_credit (s : Store) (a id : String) (ops : List Op) (h : LinkInv s a id)
    (hops : ∀ op ∈ ops, raceOp a id op) :
    LinkInv (run s ops) a id ∧ potential (run s ops) a id = potential s a id + sumInts (ops.map (credited id)) := by
  induction ops generalizing s with
  | nil => exact ⟨h, (Int.add_zero _).symm⟩
  | cons op ops ih =>
    obtain ⟨h1, h2⟩ := step s a id op h (hops op List.mem_cons_self)
    obtain ⟨h3, h4⟩ := ih (applyOp s op) h1 fun o ho => hops o (List.mem_cons_of_mem _ ho)
    refine ⟨h3, h4.trans ?_⟩
    rw [h2, Int.add_assoc]; rfl

/-- ... and once a link is among them, that is the credit of the wallet the node spends from, with no trial balance
left beside it -/
theorem link_race_final (s : Store) (a id : String) (ops : List Op) (h : LinkInv s a id)
    (hops : ∀ op ∈ ops, raceOp a id op) (hlinked : (run s ops).accounts.get id = some a) :
    ((run s ops).nodeBalance id).credit = potential s a id + sumInts (ops.map (credited id)) ∧
    (run s ops).trials.get id = none := by
  obtain ⟨⟨_, _, hl⟩, hp⟩ := link_race_no_lost_credit s a id ops h hops
  rcases hl with hl | ⟨_, ht⟩
  · rw [hl] at hlinked; cases hlinked
  · refine ⟨?_, ht⟩
    rw [← hp]
    simp [Store.nodeBalance, potential, hlinked]

/-- non-vacuity: 100 on trial, two credits around the link -/
example :
    let s : Store := (Store.empty.setNode { id := "n" }).toOption.getD {} |>.addNodeBalance "n" 100 |>.toOption.getD {}
    ((run s [.addNodeBalance "n" 5, .addAccountNode "W" "n", .addNodeBalance "n" 7]).nodeBalance "n").credit = 112 := by decide +kernel

end Vipnode.C13L
