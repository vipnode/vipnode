/-
C19 — A host is advertised only under its own identity and a dialable address.

Theorems about `normalizeNodeURI` on structured overrides (`Model/NodeURI.lean`)
and about `net.JoinHostPort` / `net.SplitHostPort` on character lists.
-/
import Vipnode.Model.NodeURI
import Vipnode.Lemmas.Store
namespace Vipnode.C19
open Vipnode

theorem normalize_ok (o : Option Override) (id src defPort : String) (a : Advertised)
    (h : normalizeNodeURI o id src defPort = .ok a) :
    usernameMismatch o id = false ∧ hostMissing (chosenHost o src) = false ∧
    a = { id := id, host := chosenHost o src, port := chosenPort o defPort } := by
  unfold normalizeNodeURI at h
  by_cases h1 : usernameMismatch o id = true
  · simp [h1] at h
  · by_cases h2 : hostMissing (chosenHost o src) = true
    · simp [h1, h2] at h
    · simp only [h1, h2, Bool.false_eq_true, if_false] at h
      cases h
      exact ⟨by simpa using h1, by simpa using h2, rfl⟩

/-- **own identity**: whatever the override says, an accepted registration is advertised under the authenticated id -/
theorem advertised_id (o : Option Override) (id src defPort : String) (a : Advertised)
    (h : normalizeNodeURI o id src defPort = .ok a) : a.id = id := by
  obtain ⟨-, -, rfl⟩ := normalize_ok o id src defPort a h; rfl

/-- **another identity is refused**: an override naming a different (non-empty) user is an error, nothing is stored -/
theorem foreign_id_refused (ov : Override) (id src defPort : String) (h1 : ov.username ≠ "") (h2 : ov.username ≠ id) :
    normalizeNodeURI (some ov) id src defPort = .error .idMismatch := by
  simp [normalizeNodeURI, usernameMismatch, h1, h2]

/-- **address**: the advertised host is the one the host supplied (unless empty or unspecified), else the address
it connected from; the port is the supplied one, else the default -/
theorem advertised_address (o : Option Override) (id src defPort : String) (a : Advertised)
    (h : normalizeNodeURI o id src defPort = .ok a) :
    a.host = chosenHost o src ∧ a.port = chosenPort o defPort ∧ a.host ≠ "" ∧ a.host ≠ "::" := by
  obtain ⟨_, h2, h3⟩ := normalize_ok o id src defPort a h
  subst h3
  simp only [hostMissing, decide_eq_false_iff_not, not_or] at h2
  exact ⟨rfl, rfl, h2.1, h2.2.1⟩

/-- **undetermined address is refused** rather than stored -/
theorem undetermined_refused (o : Option Override) (id src defPort : String)
    (h : chosenHost o src = "" ∨ chosenHost o src = "::") :
    ∃ e, normalizeNodeURI o id src defPort = .error e := by
  unfold normalizeNodeURI
  by_cases h1 : usernameMismatch o id = true
  · simp [h1]
  · have : hostMissing (chosenHost o src) = true := by
      simp only [hostMissing, decide_eq_true_eq]; exact h.elim .inl fun h => .inr (.inl h)
    simp [h1, this]

theorem default_port (o : Option Override) (h : ∀ ov, o = some ov → ov.port = "") : chosenPort o "30303" = "30303" := by
  unfold chosenPort
  cases o with
  | none => rfl
  | some ov => simp [h ov rfl]

/-! ### host:port round trip, IPv4, IPv6 and DNS names alike -/

theorem splitLastColon_none (p : List Char) (h : ':' ∉ p) : splitLastColon p = none := by
  induction p with
  | nil => rfl
  | cons c t ih =>
    have hc : c ≠ ':' := fun e => h (e ▸ List.mem_cons_self)
    have ht : ':' ∉ t := fun hm => h (List.mem_cons_of_mem _ hm)
    simp [splitLastColon, ih ht, hc]

theorem splitLastColon_append (h p : List Char) (hp : ':' ∉ p) : splitLastColon (h ++ ':' :: p) = some (h, p) := by
  induction h with
  | nil => simp [splitLastColon, splitLastColon_none p hp]
  | cons c t ih => simp [splitLastColon, ih]

theorem bracket_split (h rest : List Char) (hh : ']' ∉ h) :
    fromBracket (h ++ ']' :: rest) = ']' :: rest ∧ beforeBracket (h ++ ']' :: rest) = h := by
  induction h with
  | nil => simp [fromBracket, beforeBracket]
  | cons c t ih =>
    have hc : c ≠ ']' := fun e => hh (e ▸ List.mem_cons_self)
    have ht : ']' ∉ t := fun hm => hh (List.mem_cons_of_mem _ hm)
    simp [fromBracket, beforeBracket, hc, ih ht]

/-- **join/split round trip**: for any host without brackets (IPv4, IPv6 literal, DNS name) and any port without
a colon, `SplitHostPort(JoinHostPort(host, port)) = (host, port)` -/
theorem join_split (h p : List Char) (h1 : '[' ∉ h) (h2 : ']' ∉ h) (hp : ':' ∉ p) :
    splitHostPortL (joinHostPortL h p) = some (h, p) := by
  unfold joinHostPortL
  split
  · simp [splitHostPortL, bracket_split h (':' :: p) h2, hp]
  · next hc =>
    have hsl := splitLastColon_append h p hp
    cases h with
    | nil => rw [List.nil_append] at hsl; simp [splitHostPortL, hsl]
    | cons c t =>
      -- the head is not `[`, so `splitHostPortL` takes its second branch
      unfold splitHostPortL
      split
      · next heq => cases heq; exact absurd List.mem_cons_self h1
      · simp only [hsl, hc, if_false]

/-- the pre-repair join (`host + ":" + port`): an IPv6 host does not parse back (DESIGN.md §9 F13) -/
def joinOld (h p : List Char) : List Char := h ++ ':' :: p

theorem old_join_counterexample :
    splitHostPortL (joinOld "::1".toList "30303".toList) = none ∧
    splitHostPortL (joinHostPortL "::1".toList "30303".toList) = some ("::1".toList, "30303".toList) := by decide +kernel

/-- **the advertised address parses back** to the chosen host and port -/
theorem host_port_roundtrip (o : Option Override) (id src defPort : String) (a : Advertised)
    (h : normalizeNodeURI o id src defPort = .ok a)
    (hb1 : '[' ∉ a.host.toList) (hb2 : ']' ∉ a.host.toList) (hp : ':' ∉ a.port.toList) :
    splitHostPortL (joinHostPortL a.host.toList a.port.toList) = some ((chosenHost o src).toList, (chosenPort o defPort).toList) := by
  obtain ⟨hhost, hport, -, -⟩ := advertised_address o id src defPort a h
  rw [← hhost, ← hport]
  exact join_split _ _ hb1 hb2 hp

/-- non-vacuity: override with another port and an IPv6 literal; no override, source address used; a foreign id -/
example :
    (normalizeNodeURI (some { hostname := "2001:db8::1", port := "30304", username := "me" }) "me" "10.0.0.1" "30303").toOption.map (·.render)
      = some "enode://me@[2001:db8::1]:30304" ∧
    (normalizeNodeURI none "me" "10.0.0.1" "30303").toOption.map (·.render) = some "enode://me@10.0.0.1:30303" ∧
    (normalizeNodeURI (some { hostname := "1.2.3.4", username := "other" }) "me" "10.0.0.1" "30303").toOption = none ∧
    (normalizeNodeURI (some { hostname := "::" }) "me" "" "30303").toOption = none := by decide +kernel

/-! ### the advertised address stays the registered one

Keep-alives rewrite a node's record on every round.  They only refresh the check-in and the block number: the URI
(and kind, role, payout) a host registered last is what the pool stores and hands out, whatever keep-alives of
whichever node come in between (`conc noderace`: the re-registration racing the node's own keep-alive; seeded
change C19-r5 wrote back a record read before the re-registration). -/

/-- a keep-alive of `id` leaves every other node's record alone and changes nothing of `id`'s own record but the
check-in and the block number -/
theorem keepalive_keeps_registration (s s' : Store) (id : String) (reported : List String) (block : Nat) (now : Int)
    (inactive : List String) (h : s.updateNodePeers id reported block now = .ok (s', inactive)) :
    (∀ other, other ≠ id → s'.nodes.get other = s.nodes.get other) ∧
    ∃ n, s.nodes.get id = some n ∧ s'.nodes.get id = some { n with lastSeen := now, block := block } := by
  obtain ⟨n, hn, e⟩ := Store.updateNodePeers_ok_iff.1 h
  obtain rfl : s' = (s.checkIn id n reported block now).1 := congrArg Prod.fst e
  exact ⟨fun other hne => AList.get_set_ne _ _ (Ne.symm hne), n, hn, AList.get_set_eq _ _ _⟩

/-- hence the URI handed out for a host is the one of its latest registration, across any keep-alive -/
theorem keepalive_keeps_uri (s s' : Store) (id who : String) (reported : List String) (block : Nat) (now : Int)
    (inactive : List String) (h : s.updateNodePeers who reported block now = .ok (s', inactive)) :
    (s'.nodes.get id).map (·.uri) = (s.nodes.get id).map (·.uri) := by
  obtain ⟨ho, n, hn, hn'⟩ := keepalive_keeps_registration s s' who reported block now inactive h
  by_cases e : id = who
  · subst e; rw [hn, hn']; rfl
  · rw [ho id e]

end Vipnode.C19
