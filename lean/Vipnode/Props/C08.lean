/-
C08 — Peer requests return only eligible hosts that already whitelisted the requester.

Relational theorems about `Pool.requestHosts` / `Pool.whitelistCalls`, for
every store state, every host choice the store may make (constrained by the
`ActiveHosts` contract of C12), every outcome of every whitelist call and
every requested count and maximum.  Arrival order of acknowledgements does not
appear in the model because the reply is a set (compared sorted): the theorems
hold for each host separately.
-/
import Vipnode.Lemmas.Pool
namespace Vipnode.C08
open Vipnode Vipnode.Pool Vipnode.AList

theorem candidates_length (p : Pool) (skip choice : List String) (n : Nat) :
    (p.candidates skip choice n).length ≤ n := by
  unfold candidates; exact List.length_take_le _ _

theorem effectiveNum_le (p : Pool) (num : Int) :
    p.effectiveNum num ≤ num ∧ (0 < p.cfg.maxRequestHosts → p.effectiveNum num ≤ p.cfg.maxRequestHosts) := by
  unfold effectiveNum; split
  · next h => exact ⟨Int.le_of_lt h.2, fun _ => Int.le_refl _⟩
  · next h => exact ⟨Int.le_refl _, fun hm => Int.not_lt.1 fun hlt => h ⟨hm, hlt⟩⟩

theorem whitelistCalls_pos (p : Pool) (id : String) (num : Int) (choice : List String) (peers : List Node)
    (hn : ¬ p.effectiveNum num ≤ 0) (hp : p.store.nodePeers id = .ok peers) :
    p.whitelistCalls id num choice = p.candidates (id :: peers.map (·.id)) choice (p.effectiveNum num).toNat := by
  simp [whitelistCalls, hn, hp]

theorem requestHosts_pos (p : Pool) (id : String) (num : Int) (choice : List String) (outcome : String → HostOutcome)
    (peers : List Node) (hn : ¬ p.effectiveNum num ≤ 0) (hp : p.store.nodePeers id = .ok peers) :
    p.requestHosts id num choice outcome = replyOf (p.whitelistCalls id num choice) outcome choice.length := by
  simp [requestHosts, hn, hp]

/-- a reply lists the hosts behind the acknowledged calls, and there is one only if some call was acknowledged -/
theorem replyOf_ok_iff {cands : List (String × String)} {outcome : String → HostOutcome} {tried : Nat} {hosts : List String} :
    replyOf cands outcome tried = .ok hosts ↔
      cands.filter (fun hc => outcome hc.2 == .ack) ≠ [] ∧
      hosts = (cands.filter (fun hc => outcome hc.2 == .ack)).map (·.1) := by
  unfold replyOf
  by_cases h : cands.filter (fun hc => outcome hc.2 == .ack) = []
  · rw [if_neg (not_not_intro h)]
    exact iff_of_false (by split <;> exact fun e => nomatch e) fun h' => h'.1 h
  · rw [if_pos h]
    exact ⟨fun e => ⟨h, by cases e; rfl⟩, fun h' => h'.2 ▸ rfl⟩

theorem replyOf_error_iff (cands : List (String × String)) (outcome : String → HostOutcome) (tried : Nat) :
    (∃ e, replyOf cands outcome tried = .error e) ↔ ∀ hc ∈ cands, outcome hc.2 ≠ .ack := by
  unfold replyOf; split
  · next h =>
    exact iff_of_false (fun ⟨e, he⟩ => nomatch he) fun hall =>
      h (List.filter_eq_nil_iff.2 fun hc hm => by simpa using hall hc hm)
  · next h =>
    refine iff_of_true (by split <;> exact ⟨_, rfl⟩) fun hc hm hack => ?_
    exact List.filter_eq_nil_iff.1 (Decidable.not_not.1 h) hc hm (by simp [hack])

/-- every reply lists the hosts behind the acknowledged whitelist calls (none are made for a non-positive request) -/
theorem requestHosts_ok {p : Pool} {id : String} {num : Int} {choice : List String} {outcome : String → HostOutcome}
    {hosts : List String} (hr : p.requestHosts id num choice outcome = .ok hosts) :
    hosts = ((p.whitelistCalls id num choice).filter (fun hc => outcome hc.2 == .ack)).map (·.1) := by
  by_cases hn : p.effectiveNum num ≤ 0
  · simp only [requestHosts, whitelistCalls, if_pos hn, Except.ok.injEq] at hr ⊢; exact hr.symm
  · cases hp : p.store.nodePeers id with
    | error e => simp [requestHosts, hn, hp] at hr
    | ok peers =>
      rw [requestHosts_pos p id num choice outcome peers hn hp] at hr
      exact (replyOf_ok_iff.1 hr).2

/-- **only eligible, connected, acknowledged hosts**: every host in a reply was chosen by the store's
active-host query (hence — C12 `activeHosts_contract` — a full-node host of the requested kind seen within
the activity window), is not the requester, not already one of its tracked peers, has a live registered
connection, and that connection acknowledged the whitelist call -/
theorem reply_hosts_eligible (p : Pool) (id : String) (num : Int) (choice : List String)
    (outcome : String → HostOutcome) (hosts : List String)
    (hr : p.requestHosts id num choice outcome = .ok hosts) (h : String) (hh : h ∈ hosts) :
    h ∈ choice ∧ h ≠ id ∧
    (∀ peers, p.store.nodePeers id = .ok peers → h ∉ peers.map (·.id)) ∧
    ∃ c, p.hosts.get h = some c ∧ outcome c = .ack ∧ (h, c) ∈ p.whitelistCalls id num choice := by
  obtain rfl := requestHosts_ok hr
  obtain ⟨⟨h', c⟩, hm, rfl⟩ := List.mem_map.1 hh
  obtain ⟨hw, hack⟩ := List.mem_filter.1 hm
  obtain ⟨peers, hp, hch, hskip, hg⟩ := mem_whitelistCalls hw
  rw [List.mem_cons, not_or] at hskip
  refine ⟨hch, hskip.1, fun peers' hp' => ?_, c, hg, by simpa using hack, hw⟩
  cases hp.symm.trans hp'; exact hskip.2

/-- the whitelist calls are bounded by the request: a host is only ever asked to whitelist the requester if
it may end up in the reply -/
theorem whitelist_calls_bounded (p : Pool) (id : String) (num : Int) (choice : List String) :
    ((p.whitelistCalls id num choice).length : Int) ≤ max 0 (p.effectiveNum num) := by
  have : (p.whitelistCalls id num choice).length ≤ (p.effectiveNum num).toNat := by
    unfold whitelistCalls; split
    · exact Nat.zero_le _
    · split
      · exact Nat.zero_le _
      · exact candidates_length ..
  rw [Int.max_comm, ← Int.toNat_eq_max]; exact Int.ofNat_le.2 this

/-- **never more than asked for, never more than the maximum**; a zero or negative request gets nothing -/
theorem reply_count (p : Pool) (id : String) (num : Int) (choice : List String)
    (outcome : String → HostOutcome) (hosts : List String)
    (hr : p.requestHosts id num choice outcome = .ok hosts) :
    (hosts.length : Int) ≤ max 0 num ∧ (0 < p.cfg.maxRequestHosts → (hosts.length : Int) ≤ p.cfg.maxRequestHosts) ∧
    (num ≤ 0 → hosts = []) := by
  have hlen : hosts.length ≤ (p.whitelistCalls id num choice).length := by
    rw [requestHosts_ok hr, List.length_map]; exact List.length_filter_le _ _
  -- everything follows from `length ≤ max 0 effectiveNum`: bound each argument of the `max`
  have hL := Int.le_trans (Int.ofNat_le.2 hlen) (whitelist_calls_bounded p id num choice)
  obtain ⟨h1, h2⟩ := effectiveNum_le p num
  refine ⟨Int.le_trans hL (Int.max_le.2 ⟨Int.le_max_left .., Int.le_trans h1 (Int.le_max_right ..)⟩),
    fun hm => Int.le_trans hL (Int.max_le.2 ⟨Int.le_of_lt hm, h2 hm⟩), fun h0 => ?_⟩
  have := Int.le_trans hL (Int.max_le.2 ⟨Int.le_refl 0, Int.le_trans h1 h0⟩)
  exact List.eq_nil_of_length_eq_zero (Int.natCast_eq_zero.1 (Int.le_antisymm this (Int.natCast_nonneg _)))

/-- **an error only when no host could be provided**: for a positive request by a registered node, the reply
is an error exactly when no candidate acknowledged -/
theorem error_iff_empty (p : Pool) (id : String) (num : Int) (choice : List String) (outcome : String → HostOutcome)
    (hn : 0 < p.effectiveNum num) (peers : List Node) (hp : p.store.nodePeers id = .ok peers) :
    (∃ e, p.requestHosts id num choice outcome = .error e) ↔
      ∀ hc ∈ p.whitelistCalls id num choice, outcome hc.2 ≠ .ack := by
  rw [requestHosts_pos p id num choice outcome peers (Int.not_le.2 hn) hp]
  exact replyOf_error_iff ..

/-- `List.map_filterMap_of_inv`, asking the inverse only on the members -/
theorem map_filterMap_of_mem_inv {α β : Type} {f : α → Option β} {g : β → α} {l : List α}
    (H : ∀ x ∈ l, (f x).map g = some x) : (l.filterMap f).map g = l := by
  induction l with
  | nil => rfl
  | cons a t ih =>
    obtain ⟨b, hb, hg⟩ := Option.map_eq_some_iff.1 (H a List.mem_cons_self)
    rw [List.filterMap_cons, hb, List.map_cons, hg, ih fun x hx => H x (List.mem_cons_of_mem _ hx)]

/-- **full supply**: when every host the store chose is eligible for the requester (not itself, not already a
peer), connected and acknowledges, the reply is exactly the first `requested` (capped by the maximum) of them —
so it holds min(requested', supply) hosts -/
theorem full_supply (p : Pool) (id : String) (num : Int) (choice : List String) (outcome : String → HostOutcome)
    (hn : 0 < p.effectiveNum num) (peers : List Node) (hp : p.store.nodePeers id = .ok peers)
    (hne : choice ≠ [])
    (hall : ∀ h ∈ choice, h ≠ id ∧ h ∉ peers.map (·.id) ∧ ∃ c, p.hosts.get h = some c ∧ outcome c = .ack) :
    ∃ hosts, p.requestHosts id num choice outcome = .ok hosts ∧ hosts = choice.take (p.effectiveNum num).toNat ∧
      hosts.length = min (p.effectiveNum num).toNat choice.length := by
  have hn' : ¬ p.effectiveNum num ≤ 0 := Int.not_le.2 hn
  rw [requestHosts_pos p id num choice outcome peers hn' hp, whitelistCalls_pos p id num choice peers hn' hp]
  -- no chosen host is filtered out, so the candidates are the chosen hosts, cut off
  have hmap : (p.candidates (id :: peers.map (·.id)) choice (p.effectiveNum num).toNat).map (·.1) =
      choice.take (p.effectiveNum num).toNat := by
    unfold candidates
    rw [List.map_take, map_filterMap_of_mem_inv]
    intro h hh
    obtain ⟨h1, h2, c, hc, -⟩ := hall h hh
    simp [h1, h2, hc]
  -- and every call is acknowledged
  have hack : (p.candidates (id :: peers.map (·.id)) choice (p.effectiveNum num).toNat).filter (fun hc => outcome hc.2 == .ack) =
      p.candidates (id :: peers.map (·.id)) choice (p.effectiveNum num).toNat := by
    rw [List.filter_eq_self]
    intro hc hm
    obtain ⟨hch, -, hg⟩ := mem_candidates p _ _ _ hc.1 hc.2 hm
    obtain ⟨-, -, c', hc', ha⟩ := hall _ hch
    cases hg.symm.trans hc'; simp [ha]
  refine ⟨_, replyOf_ok_iff.2 ⟨fun hnil => ?_, (hack.symm ▸ hmap).symm⟩, rfl, List.length_take⟩
  rw [hack] at hnil
  rw [hnil, List.map_nil, eq_comm, List.take_eq_nil_iff] at hmap
  exact hmap.elim (fun h0 => hn' (Int.toNat_eq_zero.1 h0)) hne

/-- a host whose call fails or never answers is left out -/
theorem failed_hosts_left_out (p : Pool) (id : String) (num : Int) (choice : List String)
    (outcome : String → HostOutcome) (hosts : List String)
    (hr : p.requestHosts id num choice outcome = .ok hosts) (h c : String) (hc : p.hosts.get h = some c)
    (hfail : outcome c ≠ .ack) : h ∉ hosts := by
  intro hh
  obtain ⟨_, _, _, c', hc', hack, _⟩ := reply_hosts_eligible p id num choice outcome hosts hr h hh
  rw [hc] at hc'; cases hc'; exact hfail hack

/-- the pre-repair candidate list (no cap): witness that a request for one host could return several
(DESIGN.md §9 F6) -/
def candidatesOld (p : Pool) (skip choice : List String) : List (String × String) :=
  choice.filterMap (fun h => if skip.contains h then none else (p.hosts.get h).map (fun c => (h, c)))

theorem old_count_counterexample :
    let p : Pool := { hosts := [("h1", "c1"), ("h2", "c2"), ("h3", "c3")] }
    -- a client with two tracked peers asks for 1 host: the store is asked for 1 + 3 and all three are returned
    (candidatesOld p ["me", "x", "y"] ["h1", "h2", "h3"]).length = 3 ∧
    (p.candidates ["me", "x", "y"] ["h1", "h2", "h3"] 1).length = 1 := by decide +kernel

/-- non-vacuity: four connected hosts, the client already peers with h1, asks for 2, h2's call fails -/
example :
    let p : Pool := { hosts := [("h1", "c1"), ("h2", "c2"), ("h3", "c3"), ("h4", "c4")],
                      store := Store.run Store.empty [.setNode { id := "me" }, .setNode { id := "h1", isHost := true, lastSeen := 5 },
                        .unp "me" ["h1"] 0 10] }
    p.requestHosts "me" 2 ["h1", "h2", "h3", "h4"] (fun c => if c = "c2" then .err else .ack) = .ok ["h3"] ∧
    p.whitelistCalls "me" 2 ["h1", "h2", "h3", "h4"] = [("h2", "c2"), ("h3", "c3")] := by
  refine ⟨?_, ?_⟩ <;> rfl

end Vipnode.C08
