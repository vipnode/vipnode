/-
C16 — Only registered RPC names are callable, with exactly their declared parameters.

Theorems about `Model/Server.lean` (`Server.Register`, `Server.Handle`,
`parsePositionalArguments`).  The production surface is a regenerated fact:
`Facts.servedRpc` is obtained on every run by probing the *built pool binary*
(started with the memory store on a loopback port) with every candidate name
derived by reflection from the objects behind the RPC services.
-/
import Vipnode.Model.Server
import Vipnode.Lemmas.AList
import Vipnode.Generated.Facts
namespace Vipnode.C16
open Vipnode Vipnode.AList

/-- registering on top of any registry: the names already there, plus `exposed_exactly`'s -/
theorem register_get (reg : AList Method) (pre : String) (methods : List (String × Method)) (allow : List String)
    (name : String) :
    ((register reg pre methods allow).get name).isSome ↔
      (reg.get name).isSome ∨ ∃ m ∈ methods, name = rpcName pre m.1 ∧ (allow = [] ∨ lowerFirst m.1 ∈ allow) := by
  unfold register
  induction methods generalizing reg with
  | nil => simp
  | cons m ms ih =>
    rw [List.foldl_cons, ih]
    simp only [List.mem_cons, exists_eq_or_imp, Bool.or_eq_true, List.isEmpty_iff, List.contains_iff_mem]
    by_cases ha : allow = [] ∨ lowerFirst m.1 ∈ allow
    · rw [if_pos ha, isSome_get_set]; simp only [ha, and_true, or_assoc, or_left_comm]
    · rw [if_neg ha]; simp only [ha, and_false, false_or]

/-- **exposed exactly**: a fresh server exposes `name` iff it is prefix + lower-cased-first-letter of an
exported method of the receiver, restricted to the allow-list when one is given -/
theorem exposed_exactly (pre : String) (methods : List (String × Method)) (allow : List String) (name : String) :
    ((register [] pre methods allow).get name).isSome ↔
      ∃ m ∈ methods, name = rpcName pre m.1 ∧ (allow = [] ∨ lowerFirst m.1 ∈ allow) :=
  (register_get ..).trans (or_iff_right (by simp))

/-- unknown names get method-not-found and nothing runs -/
theorem unknown_not_found (reg : AList Method) (name : String) (ps : Params) (h : reg.get name = none) :
    handle reg true name ps = (.methodNotFound, false) := by
  simp [handle, h]

/-- **wrong parameters are answered with invalid-params and the method is not run** -/
theorem bad_params_not_run (reg : AList Method) (name : String) (ps : Params) (m : Method)
    (hm : reg.get name = some m) (hbad : parsePositional ps m.types = false) :
    handle reg true name ps = (.invalidParams, false) := by
  simp [handle, hm, hbad]

/-- the method runs only when every supplied parameter decodes and none is missing -/
theorem runs_only_if_well_typed (reg : AList Method) (name : String) (ps : Params)
    (h : (handle reg true name ps).2 = true) :
    ∃ m, reg.get name = some m ∧ parsePositional ps m.types = true := by
  unfold handle at h
  cases hm : reg.get name with
  | none => simp [hm] at h
  | some m =>
    refine ⟨m, rfl, ?_⟩
    cases hp : parsePositional ps m.types with
    | true => rfl
    | false => simp [hm, hp] at h

/-- decoding succeeds iff there are not too many elements and each is compatible with its declared type -/
theorem decodeArgs_eq (l : List JKind) (types : List GoType) :
    decodeArgs l types = (decide (l.length ≤ types.length) && (l.zip types).all (fun p => compat p.1 p.2)) := by
  induction l generalizing types with
  | nil => simp [decodeArgs]
  | cons k ks ih => cases types <;> simp [decodeArgs, ih, Bool.and_left_comm]

/-- too many positional parameters are invalid -/
theorem too_many_invalid (l : List JKind) (types : List GoType) (h : types.length < l.length) :
    parsePositional (.array l) types = false := by
  simp [parsePositional, decodeArgs_eq, Nat.not_le.2 h]

theorem missing_required {types : List GoType} {n : Nat} {t : GoType} (hmiss : types[n]? = some t) (ht : isPtr t = false) :
    (types.drop n).all isPtr = false :=
  List.all_eq_false.2 ⟨t, List.mem_of_getElem? (i := 0) (List.getElem?_drop ▸ hmiss), Bool.eq_false_iff.1 ht⟩

/-- too few: a missing required (non-pointer) parameter is invalid — including absent or null `params` -/
theorem too_few_invalid (ps : Params) (types : List GoType) (t : GoType) (ht : isPtr t = false)
    (supplied : Nat) (hs : match ps with | .array l => l.length = supplied | .absent => supplied = 0 | .null => supplied = 0 | .nonArray => True)
    (hmiss : types[supplied]? = some t) : parsePositional ps types = false := by
  have := missing_required hmiss ht
  cases ps with
  | nonArray => rfl
  | absent => obtain rfl : supplied = 0 := hs; exact this
  | null => obtain rfl : supplied = 0 := hs; exact this
  | array l => obtain rfl : l.length = supplied := hs; simp [parsePositional, this]

/-- a wrongly typed parameter at any position is invalid -/
theorem wrong_type_invalid (l : List JKind) (types : List GoType) (i : Nat) (k : JKind) (t : GoType)
    (hk : l[i]? = some k) (ht : types[i]? = some t) (hc : compat k t = false) :
    parsePositional (.array l) types = false := by
  have : (l.zip types).all (fun p => compat p.1 p.2) = false :=
    List.all_eq_false.2 ⟨(k, t), List.mem_of_getElem? (List.getElem?_zip_eq_some.2 ⟨hk, ht⟩), Bool.eq_false_iff.1 hc⟩
  simp [parsePositional, decodeArgs_eq, this]

/-- well-typed, complete parameter lists run the method exactly once -/
theorem good_params_run (reg : AList Method) (name : String) (ps : Params) (m : Method)
    (hm : reg.get name = some m) (hok : parsePositional ps m.types = true) :
    (handle reg true name ps).2 = true ∧ (handle reg true name ps).1 ≠ .invalidParams ∧
    (handle reg true name ps).1 ≠ .methodNotFound := by
  simp only [handle, hm, hok, Bool.not_true, Bool.false_eq_true, if_false, if_true]
  cases m.fails <;> simp

/-- the documented RPC surface of the pool binary -/
def documentedApi : List String :=
  ["pool_account", "pool_addNode", "pool_status", "pool_withdraw",
   "vipnode_client", "vipnode_connect", "vipnode_host", "vipnode_peer", "vipnode_ping", "vipnode_update"]

/-- **the pool binary serves exactly its documented calls** — and nothing else of the underlying objects
(`CloseRemote`, `NumRemotes`, `Verify`, store accessors, …): re-proved on every run against the names the
built binary actually answers -/
theorem production_surface : Facts.servedRpc = documentedApi := rfl

/-- what the registry's own reflection registers agrees with what the binary serves -/
theorem registration_matches_binary : Facts.registeredRpc = Facts.servedRpc := rfl

/-- non-vacuity: a receiver with a helper method, registered with an allow-list -/
example :
    let ms : List (String × Method) := [("Ping", { types := [] }), ("Update", { types := [.str, .str, .int, .obj] }), ("CloseRemote", { types := [.obj] })]
    let reg := register [] "vipnode_" ms ["ping", "update"]
    handle reg true "vipnode_update" (.array [.str, .str, .int, .obj]) = (.result, true) ∧
    handle reg true "vipnode_update" (.array [.str, .str, .str, .obj]) = (.invalidParams, false) ∧
    handle reg true "vipnode_update" .absent = (.invalidParams, false) ∧
    handle reg true "vipnode_closeRemote" (.array [.obj]) = (.methodNotFound, false) ∧
    handle reg true "vipnode_Update" (.array [.str, .str, .int, .obj]) = (.methodNotFound, false) := by decide +kernel

end Vipnode.C16
