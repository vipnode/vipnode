/-
C04 — Every signed endpoint acts only on requests signed by the identity they name.
-/
import Vipnode.Model.Auth
import Vipnode.Props.C06
import Vipnode.Generated.Facts
namespace Vipnode.C04
open Vipnode

/-- a list is split uniquely at the first occurrence of `a`: what precedes it is `takeWhile (· ≠ a)` -/
theorem split_at_first {α : Type} [DecidableEq α] {a : α} {m₁ m₂ r₁ r₂ : List α} (h₁ : a ∉ m₁) (h₂ : a ∉ m₂)
    (h : m₁ ++ a :: r₁ = m₂ ++ a :: r₂) : m₁ = m₂ ∧ r₁ = r₂ := by
  have tw : ∀ {m : List α} (r : List α), a ∉ m → (m ++ a :: r).takeWhile (· ≠ a) = m := fun r hm => by
    rw [List.takeWhile_append_of_pos (fun b hb => by simpa using fun e : b = a => hm (e ▸ hb))]; simp
  have e : m₁ = m₂ := by rw [← tw r₁ h₁, h, tw r₂ h₂]
  subst e; simpa using h

/-- **the signed bytes determine the whole request**: method, identity, nonce and parameters
(method names contain no `[`, the argument array starts with one) -/
theorem payload_injective {α : Type} (E : ArrayEncoder α) (m₁ m₂ : String) (a₁ a₂ : α)
    (h₁ : '[' ∉ m₁.toList) (h₂ : '[' ∉ m₂.toList)
    (h : payload E.enc m₁ a₁ = payload E.enc m₂ a₂) : m₁ = m₂ ∧ a₁ = a₂ := by
  obtain ⟨r₁, e₁⟩ := E.starts a₁
  obtain ⟨r₂, e₂⟩ := E.starts a₂
  unfold payload at h
  rw [e₁, e₂] at h
  obtain ⟨hm, hr⟩ := split_at_first h₁ h₂ h
  exact ⟨String.toList_inj.1 hm, E.inj _ _ (by rw [e₁, e₂, hr])⟩

/-- the kernel reads a string literal as `String.ofList` of its characters, so its `toList` is known without running
the UTF-8 decoder that `decide` on `"…".toList` would evaluate -/
theorem not_mem_toList_ofList {c : Char} {l : List Char} (h : c ∉ l) : c ∉ (String.ofList l).toList := by
  rwa [String.toList_ofList]

/-- no signed endpoint's RPC name contains `[` (the list is regenerated from the method registry on every run) -/
theorem names_have_no_bracket : ∀ n ∈ Facts.signedEndpoints, '[' ∉ n.toList := by
  simp only [Facts.signedEndpoints, List.forall_mem_cons, List.not_mem_nil, false_imp_iff, implies_true, and_true]
  and_intros <;> refine not_mem_toList_ofList ?_ <;> decide

/-- the endpoints the property names are all registered as signed endpoints `(sig, identity, nonce, …)` -/
theorem property_endpoints_are_signed :
    ∀ n ∈ ["vipnode_connect", "vipnode_update", "vipnode_peer", "vipnode_host", "vipnode_client",
           "pool_addNode", "pool_withdraw"], n ∈ Facts.signedEndpoints := by simp [Facts.signedEndpoints]

/-- a request as it arrives: claimed identity, the argument tuple (identity, nonce, params) and a signature -/
structure Request (S : SigScheme) (α : Type) where
  method : String
  id : String
  args : α
  sig : S.Sig

/-- `request.Verify` -/
def accepts (S : SigScheme) {α : Type} (E : ArrayEncoder α) (r : Request S α) : Bool :=
  S.verify r.id (payload E.enc r.method r.args) r.sig

/-- **accepted only if signed by the named identity over exactly this request** -/
theorem accepted_only_if_signed (S : SigScheme) {α : Type} (E : ArrayEncoder α) (r : Request S α)
    (h : accepts S E r = true) : ∃ k, S.ident k = r.id ∧ r.sig = S.sign k (payload E.enc r.method r.args) :=
  (S.verify_iff _ _ _).1 h

/-- **a correctly signed request is accepted by the verification step** -/
theorem honest_accepted (S : SigScheme) {α : Type} (E : ArrayEncoder α) (k : S.Key) (method : String) (a : α) :
    accepts S E { method := method, id := S.ident k, args := a, sig := S.sign k (payload E.enc method a) } = true :=
  (S.verify_iff _ _ _).2 ⟨k, rfl, rfl⟩

/-- **any alteration is refused**: a signature made by key `k` over (method, args) is accepted for a request
(method', id', args') only if nothing was changed and `k` is the key of the claimed identity -/
theorem altered_is_refused (S : SigScheme) {α : Type} (E : ArrayEncoder α) (k : S.Key) (method method' : String)
    (a a' : α) (id' : String) (hm : '[' ∉ method.toList) (hm' : '[' ∉ method'.toList)
    (h : accepts S E { method := method', id := id', args := a', sig := S.sign k (payload E.enc method a) } = true) :
    method' = method ∧ a' = a ∧ id' = S.ident k := by
  obtain ⟨k', hid, hs⟩ := accepted_only_if_signed S E _ h
  simp only at hid hs
  obtain ⟨hk, hp⟩ := S.sign_inj _ _ _ _ hs
  obtain ⟨h1, h2⟩ := payload_injective E method method' a a' hm hm' hp
  exact ⟨h1.symm, h2.symm, by rw [← hid, hk]⟩

/-- a signature by any other key is refused -/
theorem other_key_refused (S : SigScheme) {α : Type} (E : ArrayEncoder α) (k : S.Key) (method : String) (a : α)
    (id : String) (hne : S.ident k ≠ id) :
    accepts S E { method := method, id := id, args := a, sig := S.sign k (payload E.enc method a) } = false := by
  cases h : accepts S E { method := method, id := id, args := a, sig := S.sign k (payload E.enc method a) } with
  | false => rfl
  | true =>
    obtain ⟨k', hid, hs⟩ := accepted_only_if_signed S E _ h
    simp only at hid hs
    have := (S.sign_inj _ _ _ _ hs).1
    exact absurd (by rw [this]; exact hid) hne

/-- **every signed endpoint acts only after verification**: with `sigOk` the verdict of `request.Verify` on
the arriving request, an endpoint that changes anything at all was given a request signed by the named
identity over exactly that method and those arguments (pool model, every endpoint, every state) -/
theorem endpoint_acts_only_if_signed (S : SigScheme) {α : Type} (E : ArrayEncoder α) (r : Request S α)
    (p : Pool) (nonce now : Int) :
    (∀ conn src req, (p.Connect conn src (accepts S E r) r.id nonce req now).1 ≠ p →
        ∃ k, S.ident k = r.id ∧ r.sig = S.sign k (payload E.enc r.method r.args)) ∧
    (∀ reported block mnow fail, (p.Update (accepts S E r) r.id nonce reported block now mnow fail).1 ≠ p →
        ∃ k, S.ident k = r.id ∧ r.sig = S.sign k (payload E.enc r.method r.args)) ∧
    (∀ num choice outcome, (p.Peer (accepts S E r) r.id nonce now num choice outcome).1 ≠ p →
        ∃ k, S.ident k = r.id ∧ r.sig = S.sign k (payload E.enc r.method r.args)) ∧
    (∀ node, (p.AddNode (accepts S E r) r.id nonce now node).1 ≠ p →
        ∃ k, S.ident k = r.id ∧ r.sig = S.sign k (payload E.enc r.method r.args)) ∧
    (∀ settleOk, (p.Withdraw (accepts S E r) r.id nonce now settleOk).1 ≠ p →
        ∃ k, S.ident k = r.id ∧ r.sig = S.sign k (payload E.enc r.method r.args)) := by
  cases h : accepts S E r with
  | true =>
    have := accepted_only_if_signed S E r h
    exact ⟨fun _ _ _ _ => this, fun _ _ _ _ _ => this, fun _ _ _ _ => this, fun _ _ => this, fun _ _ => this⟩
  | false =>
    -- a request that fails verification leaves the pool as it is
    obtain ⟨hc, hu, hp, ha, hw⟩ := C06.refused_no_effect p false r.id nonce now _ rfl
    exact ⟨fun _ _ _ hne => absurd (congrArg (·.1) (hc ..)) hne, fun _ _ _ _ hne => absurd (congrArg (·.1) (hu ..)) hne,
      fun _ _ _ hne => absurd (congrArg (·.1) (hp ..)) hne, fun _ hne => absurd (congrArg (·.1) (ha _)) hne,
      fun _ hne => absurd (congrArg (·.1) (hw _)) hne⟩

/-! ### non-vacuity: the laws of the ideal scheme are satisfiable -/

def toyScheme : SigScheme where
  Key := String
  Sig := String × List Char
  ident k := "id:" ++ k
  sign k m := (k, m)
  verify id m s := decide ("id:" ++ s.1 = id ∧ s.2 = m)
  verify_iff := by
    intro id m s
    simp only [decide_eq_true_eq]
    constructor
    · intro ⟨h1, h2⟩; exact ⟨s.1, h1, by rw [← h2]⟩
    · intro ⟨k, h1, h2⟩; subst h2; exact ⟨h1, rfl⟩
  sign_inj := by
    intro k k' m m' h
    simp only [Prod.mk.injEq] at h
    exact h

def toyEncoder : ArrayEncoder (List Char) where
  enc a := '[' :: a
  starts a := ⟨a, rfl⟩
  inj a b h := by simpa using h

example : accepts toyScheme toyEncoder
    { method := "vipnode_update", id := "id:k", args := "x".toList, sig := ("k", "vipnode_update[x".toList) } = true := by
  decide +kernel

end Vipnode.C04
