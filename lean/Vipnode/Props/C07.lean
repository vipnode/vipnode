/-
C07 — A withdrawal pays exactly what is owed, once.

Theorems about `Pool.Withdraw` (`PaymentService.Withdraw` with the settlement
handler's effect on the on-chain deposit as part of the model).  `owed w` is
deposit + credit, `paid w` is what the settlement handler has disbursed.
-/
import Vipnode.Lemmas.Pool
namespace Vipnode.C07
open Vipnode Vipnode.Pool Vipnode.AList

def owed (p : Pool) (w : String) : Int := (p.walletBalance w).deposit + (p.walletBalance w).credit
def paidTo (p : Pool) (w : String) : Int := (p.paid.get w).getD 0
def feeOf (cfg : PoolCfg) : Int := cfg.withdrawFee.getD 0

theorem withdrawPay_eq (cfg : PoolCfg) (t : Int) : withdrawPay cfg t = t - feeOf cfg := by
  unfold withdrawPay feeOf; cases cfg.withdrawFee <;> simp

/-- the full case analysis of a withdrawal -/
theorem withdraw_cases (p : Pool) (sigOk : Bool) (w : String) (nonce now : Int) (settleOk : Bool)
    (r : Pool × Except PoolErr Int) (hr : r = p.Withdraw sigOk w nonce now settleOk) :
    (∃ pay, r.2 = .ok pay ∧ (∃ p1, p.verify sigOk w nonce now = .ok p1) ∧ settleOk = true ∧
        belowWithdrawMin p.cfg (owed p w) = false ∧
        pay = owed p w - feeOf p.cfg ∧ owed r.1 w = 0 ∧ paidTo r.1 w = paidTo p w + pay ∧
        (∀ x, x ≠ w → owed r.1 x = owed p x ∧ paidTo r.1 x = paidTo p x)) ∨
    (∃ e, r.2 = .error e ∧ ∀ x, owed r.1 x = owed p x ∧ paidTo r.1 x = paidTo p x) := by
  subst hr; rw [Withdraw_eq]
  split
  · exact Or.inr ⟨_, rfl, fun x => ⟨rfl, rfl⟩⟩
  · rename_i p1 hv
    obtain ⟨-, rfl⟩ := verify_ok_iff.1 hv
    split
    · exact Or.inr ⟨_, rfl, fun x => ⟨rfl, rfl⟩⟩
    · rename_i href
      obtain ⟨-, hmin⟩ := withdrawRefusal_none_iff.1 href
      refine Or.inl ⟨_, rfl, ⟨_, hv⟩, hmin.2, hmin.1, withdrawPay_eq _ _, ?_, ?_, fun x hx => ?_⟩
      · simp only [owed, settle, walletBalance, Store.addAccountBalance, Store.getAccountBalance, get_set_eq,
          Option.getD_some]
        omega
      · simp only [paidTo, settle, get_set_eq, Option.getD_some]
      · simp only [owed, paidTo, settle, walletBalance, Store.addAccountBalance, Store.getAccountBalance,
          get_set_ne _ _ (Ne.symm hx), and_self]

/-- **exact**: a successful withdrawal required a correctly signed fresh request and a balance at or above the
minimum; it pays exactly balance − fee and leaves the wallet with nothing further to withdraw -/
theorem withdraw_exact (p : Pool) (sigOk : Bool) (w : String) (nonce now : Int) (settleOk : Bool) (pay : Int)
    (h : (p.Withdraw sigOk w nonce now settleOk).2 = .ok pay) :
    sigOk = true ∧ belowWithdrawMin p.cfg (owed p w) = false ∧ pay = owed p w - feeOf p.cfg ∧
    owed (p.Withdraw sigOk w nonce now settleOk).1 w = 0 ∧
    paidTo (p.Withdraw sigOk w nonce now settleOk).1 w = paidTo p w + pay := by
  rcases withdraw_cases p sigOk w nonce now settleOk _ rfl with ⟨pay', h1, ⟨p1, hv⟩, _, h3, h4, h5, h6, _⟩ | ⟨e, h1, _⟩
  · rw [h1] at h; cases h
    refine ⟨?_, h3, h4, h5, h6⟩
    cases sigOk
    · cases hv
    · rfl
  · rw [h1] at h; cases h

theorem min_respected (cfg : PoolCfg) (t m : Int) (hm : cfg.withdrawMin = some m) :
    belowWithdrawMin cfg t = false ↔ m ≤ t := by
  simp [belowWithdrawMin, hm]

/-- **refused or failed ⇒ nothing paid, balance unchanged** (bad signature, stale nonce, withdrawals disabled,
balance below the minimum, settlement failing) — for every wallet -/
theorem withdraw_refused_or_failed_no_effect (p : Pool) (sigOk : Bool) (w : String) (nonce now : Int) (settleOk : Bool)
    (e : PoolErr) (h : (p.Withdraw sigOk w nonce now settleOk).2 = .error e) :
    ∀ x, owed (p.Withdraw sigOk w nonce now settleOk).1 x = owed p x ∧
         paidTo (p.Withdraw sigOk w nonce now settleOk).1 x = paidTo p x := by
  rcases withdraw_cases p sigOk w nonce now settleOk _ rfl with ⟨pay', h1, _⟩ | ⟨e', _, h2⟩
  · rw [h1] at h; cases h
  · exact h2

theorem settlement_failure_pays_nothing (p : Pool) (sigOk : Bool) (w : String) (nonce now : Int) :
    ∃ e, (p.Withdraw sigOk w nonce now false).2 = .error e := by
  rcases withdraw_cases p sigOk w nonce now false _ rfl with ⟨pay', _, _, h, _⟩ | ⟨e, h1, _⟩
  · cases h
  · exact ⟨e, h1⟩

/-- other wallets are never touched by a withdrawal -/
theorem withdraw_frame (p : Pool) (sigOk : Bool) (w x : String) (nonce now : Int) (settleOk : Bool) (hx : x ≠ w) :
    owed (p.Withdraw sigOk w nonce now settleOk).1 x = owed p x ∧
    paidTo (p.Withdraw sigOk w nonce now settleOk).1 x = paidTo p x := by
  rcases withdraw_cases p sigOk w nonce now settleOk _ rfl with ⟨_, _, _, _, _, _, _, _, h⟩ | ⟨_, _, h⟩
  · exact h x hx
  · exact h x

/-- **conservation**: paid + owed never grows through a withdrawal; a success lowers it by exactly the fee -/
theorem withdraw_conserves (p : Pool) (sigOk : Bool) (w : String) (nonce now : Int) (settleOk : Bool) :
    let p' := (p.Withdraw sigOk w nonce now settleOk).1
    (paidTo p' w + owed p' w = paidTo p w + owed p w - feeOf p.cfg ∧ (p.Withdraw sigOk w nonce now settleOk).2.isOk = true) ∨
    (paidTo p' w + owed p' w = paidTo p w + owed p w ∧ (p.Withdraw sigOk w nonce now settleOk).2.isOk = false) := by
  rcases withdraw_cases p sigOk w nonce now settleOk _ rfl with ⟨pay, h1, _, _, _, h4, h5, h6, _⟩ | ⟨e, h1, h2⟩
  · left; show _ ∧ _; rw [h1, h5, h6, h4]; exact ⟨by omega, rfl⟩
  · right; show _ ∧ _; rw [h1, (h2 w).1, (h2 w).2]; exact ⟨rfl, rfl⟩

/-- **never twice**: repeating the withdrawal straight away finds nothing owed — the second payout is 0 − fee,
never the same earnings again (`racing_withdrawals` covers refused and failed attempts in between) -/
theorem never_twice (p : Pool) (w : String) (n1 n2 now1 now2 : Int) (s1 s2 : Bool) (ok1 ok2 : Bool) (pay1 pay2 : Int)
    (h1 : (p.Withdraw s1 w n1 now1 ok1).2 = .ok pay1)
    (h2 : ((p.Withdraw s1 w n1 now1 ok1).1.Withdraw s2 w n2 now2 ok2).2 = .ok pay2) :
    pay2 = - feeOf p.cfg ∧ pay1 + pay2 = owed p w - 2 * feeOf p.cfg := by
  obtain ⟨-, -, e1, h0, -⟩ := withdraw_exact p s1 w n1 now1 ok1 pay1 h1
  obtain ⟨-, -, e2, -, -⟩ := withdraw_exact _ s2 w n2 now2 ok2 pay2 h2
  rw [h0, Withdraw_cfg] at e2
  omega

/-- racing withdrawals: the payment service serialises withdrawals (mutex), so k concurrent requests
run as some sequence; over any sequence of withdrawal attempts of one wallet, with no earnings in between,
the total paid never exceeds what was owed at the start (fees non-negative) -/
theorem racing_withdrawals (p : Pool) (w : String) (attempts : List (Bool × Int × Int × Bool))
    (hfee : 0 ≤ feeOf p.cfg) (ho : 0 ≤ owed p w) :
    let final := attempts.foldl (fun q a => (q.Withdraw a.1 w a.2.1 a.2.2.1 a.2.2.2).1) p
    paidTo final w - paidTo p w ≤ owed p w ∧ 0 ≤ owed final w := by
  induction attempts generalizing p with
  | nil => exact ⟨by simpa using ho, ho⟩
  | cons a as ih =>
    simp only [List.foldl_cons]
    have hcfg := Withdraw_cfg p a.1 w a.2.1 a.2.2.1 a.2.2.2
    rcases withdraw_cases p a.1 w a.2.1 a.2.2.1 a.2.2.2 _ rfl with ⟨pay, -, -, -, -, hp, ho', hpd, -⟩ | ⟨e, -, h2⟩
    · -- paid out: nothing is owed any more, and what was paid is at most what was owed
      obtain ⟨ih1, ih2⟩ := ih _ (by rw [hcfg]; exact hfee) (by rw [ho']; exact Int.le_refl 0)
      rw [ho', hpd] at ih1
      exact ⟨by omega, ih2⟩
    · obtain ⟨ho', hpd⟩ := h2 w
      have := ih _ (by rw [hcfg]; exact hfee) (by rw [ho']; exact ho)
      rwa [ho', hpd] at this

/-! ### credit earned while the settlement is in flight -/

/-- with nothing arriving meanwhile `WithdrawDuring` is `Withdraw` -/
theorem withdrawDuring_none (p : Pool) (sigOk : Bool) (w : String) (nonce now : Int) (settleOk : Bool) :
    p.WithdrawDuring sigOk w nonce now settleOk none = p.Withdraw sigOk w nonce now settleOk := rfl

/-- **what a node linked to the wallet earns while the wallet's withdrawal is being settled stays on the books**:
the withdrawal pays what was owed when it read the balance, and afterwards the wallet is owed exactly the credit that
arrived in the meantime - it is neither paid out unseen nor wiped by the deduction -/
theorem credit_during_settlement_preserved (p : Pool) (sigOk : Bool) (w id : String) (nonce now amt pay : Int) (n : Node)
    (hn : p.store.nodes.get id = some n) (hl : p.store.accounts.get id = some w)
    (h : (p.WithdrawDuring sigOk w nonce now true (some (id, amt))).2 = .ok pay) :
    pay = owed p w - feeOf p.cfg ∧ owed (p.WithdrawDuring sigOk w nonce now true (some (id, amt))).1 w = amt := by
  unfold WithdrawDuring payVerify at h ⊢
  cases hv : p.verify sigOk w nonce now with
  | error e => rw [hv] at h; cases h
  | ok p1 =>
    rw [hv] at h; dsimp only at h ⊢
    -- a payout means that withdrawals are enabled and the balance is not below the minimum
    generalize p1.cfg.settleEnabled = enabled at h ⊢
    generalize belowWithdrawMin p1.cfg _ = below at h ⊢
    cases enabled with
    | false => cases h
    | true =>
    cases below with
    | true => cases h
    | false =>
    cases h
    obtain ⟨-, rfl⟩ := verify_ok_iff.1 hv
    -- the credit lands in the wallet's balance, since `id` is registered and linked to `w`
    have hadd : Store.addNodeBalance { p.store with nonces := p.store.nonces.set w nonce } id amt =
        .ok { p.store with nonces := p.store.nonces.set w nonce,
                           balances := p.store.balances.set w { (p.store.balances.get w).getD {} with
                             credit := ((p.store.balances.get w).getD {}).credit + amt } } := by
      simp only [Store.addNodeBalance, hn, hl]
    refine ⟨withdrawPay_eq .., ?_⟩
    simp only [Bool.not_true, Bool.false_eq_true, if_false, hadd, owed, walletBalance, Store.addAccountBalance,
      Store.getAccountBalance, get_set_eq, Option.getD_some]
    omega

/-- the pre-repair withdrawal (credit left in place): the witness that motivated the repair (DESIGN.md §9 F5) -/
def WithdrawOld (p : Pool) (w : String) : Pool × Int :=
  let b := p.walletBalance w
  let pay := withdrawPay p.cfg (b.deposit + b.credit)
  ({ p with deposits := p.deposits.set w 0, paid := p.paid.set w ((p.paid.get w).getD 0 + pay) }, pay)

theorem old_withdraw_counterexample :
    let p : Pool := { store := Store.empty.addAccountBalance "w" 5000 }
    (WithdrawOld p "w").2 = 5000 ∧ (WithdrawOld (WithdrawOld p "w").1 "w").2 = 5000 := by decide +kernel

/-- non-vacuity: credit 5000, deposit 400, minimum 500, fee 100: pays 5300 once; the repeat is refused by the minimum -/
example :
    let p : Pool := { cfg := { withdrawMin := some 500, withdrawFee := some 100 },
                      store := Store.empty.addAccountBalance "w" 5000, deposits := [("w", 400)] }
    (p.Withdraw true "w" 1 0 true).2 = .ok 5300 ∧
    ((p.Withdraw true "w" 1 0 true).1.Withdraw true "w" 2 0 true).2 = .error (.withdrawMin 0 500) := by
  refine ⟨?_, ?_⟩ <;> rfl

end Vipnode.C07
