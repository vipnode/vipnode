/-
C01 — The pool ledger is zero-sum.

`ledgerSum` = Σ credit over wallet balances + Σ credit over trial balances.
The theorems are about `Model/Pool.lean` (endpoints of `pool/service.go` and
`pool/payment/service.go` over the store model and the pay-per-interval
manager); that model is compared with the real pool, on both store drivers, by
the correspondence streams `pool-memory` / `pool-badger`, which read the ledger
back (`Stats().TotalCredit` and every balance) after the operations.
-/
import Vipnode.Lemmas.Pool
namespace Vipnode.C01
open Vipnode Vipnode.Pool Vipnode.AList
open Vipnode.Store (ledgerSum KeysMatch keysMatch_set keysMatch_of_nodes_eq keysMatch_empty creditAdded opCredit applyOp
  applyOp_addNodeBalance ledger_run creditSum addAccountNode_ok_iff)

/-- the node table stays keyed by node id under every pool operation: only `connect` and the keep-alive write it -/
theorem step_keys (p : Pool) (op : Op) (hk : KeysMatch p.store) : KeysMatch (step p op).store := by
  have hv : ∀ {sigOk id nonce now p1}, p.verify sigOk id nonce now = .ok p1 → p1.store.nodes = p.store.nodes := by
    intro _ _ _ _ p1 h; obtain ⟨-, rfl⟩ := verify_ok_iff.1 h; rfl
  cases op with
  | connect conn src sigOk id nonce req now =>
    simp only [step, Connect]; split
    · exact hk
    · rename_i p1 h
      rcases connect_store p1 conn src id req now with e | ⟨n, hn, e⟩ <;> rw [e]
      · exact keysMatch_of_nodes_eq hk (hv h)
      · exact keysMatch_set (keysMatch_of_nodes_eq hk (hv h)) hn rfl
  | update sigOk id nonce reported block now mnow fail => exact Update_keys p sigOk id nonce reported block now mnow fail hk
  | peer sigOk id nonce now num choice outcome =>
    refine keysMatch_of_nodes_eq hk ?_; simp only [step, Peer]; split
    · rfl
    · exact hv ‹_›
  | close conn => simp only [step, closeRemote]; split <;> exact hk
  | addNode sigOk wallet nonce now id =>
    refine keysMatch_of_nodes_eq hk ?_; simp only [step, AddNode, payVerify]; split
    · rfl
    · split
      · exact hv ‹_›
      · rename_i p1 h _ s hs; obtain ⟨-, rfl⟩ := addAccountNode_ok_iff.1 hs; exact (hv h :)
  | withdraw sigOk wallet nonce now settleOk => exact keysMatch_of_nodes_eq hk (Withdraw_nodes ..)
  | deposit wallet amt => exact hk

/-- **Zero-sum, one operation.** Whatever the operation — connect, reconnect, keep-alive (accepted,
refused, failed, cut off for low balance, with any pattern of failing credit calls), peer request,
account linking, deposit change, connection close — the ledger total changes only by the credit a
successful withdrawal settled. -/
theorem ledger_step (p : Pool) (op : Op) (hk : KeysMatch p.store) :
    ledgerSum (step p op).store = ledgerSum p.store - settled p op := by
  -- only a withdrawal settles anything; every other endpoint leaves the total where it was
  cases op with
  | connect conn src sigOk id nonce req now => exact (Connect_ledger ..).trans (Int.sub_zero _).symm
  | update sigOk id nonce reported block now mnow fail =>
    exact (Update_ledger p sigOk id nonce reported block now mnow fail hk).trans (Int.sub_zero _).symm
  | peer sigOk id nonce now num choice outcome => exact (Peer_ledger ..).trans (Int.sub_zero _).symm
  | close conn =>
    show ledgerSum (p.closeRemote conn).store = _
    unfold closeRemote; split <;> exact (Int.sub_zero _).symm
  | addNode sigOk wallet nonce now id => exact (AddNode_ledger ..).trans (Int.sub_zero _).symm
  | withdraw sigOk wallet nonce now settleOk => exact Withdraw_ledger p sigOk wallet nonce now settleOk
  | deposit wallet amt => exact (Int.sub_zero _).symm

/-- a keep-alive whose final balance read-back fails (deposit lookup over the contract proxy) is a *failed*
request: it still leaves the ledger where it was - the hosts' credits and the client's debit have both been applied
by then, whatever the pattern of failing per-peer credit calls -/
theorem update_read_fault_zero_sum (p : Pool) (sigOk : Bool) (id : String) (nonce : Int) (reported : List String)
    (block : Nat) (now mnow : Int) (fail : Nat → Bool) (hk : KeysMatch p.store) :
    ledgerSum (p.UpdateReadFault sigOk id nonce reported block now mnow fail).1.store = ledgerSum p.store := by
  have : (p.UpdateReadFault sigOk id nonce reported block now mnow fail).1 =
      (p.Update sigOk id nonce reported block now mnow fail).1 := by
    unfold UpdateReadFault
    generalize p.Update sigOk id nonce reported block now mnow fail = u
    obtain ⟨p', r, calls⟩ := u
    -- both answers carry the state of `Update`
    dsimp only
    generalize (_ && !p'.cfg.noBalance) = faulted
    cases faulted <;> rfl
  rw [this]; exact Update_ledger p sigOk id nonce reported block now mnow fail hk

/-- **Zero-sum, every history.** -/
theorem ledger_history (p : Pool) (ops : List Op) (hk : KeysMatch p.store) :
    ledgerSum (run p ops).store = ledgerSum p.store - settledTotal p ops := by
  induction ops generalizing p with
  | nil => simp [run, settledTotal]
  | cons op ops ih =>
    have := ih (step p op) (step_keys p op hk)
    simp only [run, List.foldl_cons, settledTotal] at *
    rw [this, ledger_step p op hk]; omega

/-- from a freshly opened pool (any configuration): the ledger equals minus the settled credit -/
theorem ledger_from_empty (cfg : PoolCfg) (ops : List Op) :
    ledgerSum (run { cfg := cfg } ops).store = - settledTotal { cfg := cfg } ops := by
  have := ledger_history { cfg := cfg } ops keysMatch_empty
  simpa [ledgerSum, creditSum, sumInts, AList.vals] using this

/-- a history without successful withdrawals leaves the total exactly unchanged -/
theorem ledger_constant_without_withdrawals (p : Pool) (ops : List Op) (hk : KeysMatch p.store)
    (h : settledTotal p ops = 0) : ledgerSum (run p ops).store = ledgerSum p.store := by
  rw [ledger_history p ops hk, h]; omega

/-! ### concurrency: every interleaving of the store calls made by concurrent requests

Each request is a thread of atomic store calls (one mutex-protected method of the memory driver,
one transaction of the badger driver).  The balance manager's thread for one keep-alive is
`credit p₁ c, …, credit pₖ c, debit client (k·c)`: its amounts sum to zero.  An interleaving of
threads is some permutation of their concatenation. -/

/-- sum of the amounts of a list of balance calls -/
def amounts (calls : List (String × Int)) : Int := sumInts (calls.map (·.2))

def toOps (calls : List (String × Int)) : List Store.Op := calls.map (fun c => .addNodeBalance c.1 c.2)

theorem applyOp_addNodeBalance_nodes (s : Store) (id : String) (amt : Int) :
    (applyOp s (.addNodeBalance id amt)).nodes = s.nodes := by
  rw [applyOp_addNodeBalance]; split <;> simp

theorem creditAdded_registered (s : Store) (calls : List (String × Int))
    (hreg : ∀ c ∈ calls, (s.nodes.get c.1).isSome) : creditAdded s (toOps calls) = amounts calls := by
  induction calls generalizing s with
  | nil => rfl
  | cons c cs ih =>
    have hc := hreg c (List.mem_cons_self)
    obtain ⟨n, hn⟩ := Option.isSome_iff_exists.1 hc
    have hrest : ∀ c' ∈ cs, ((applyOp s (.addNodeBalance c.1 c.2)).nodes.get c'.1).isSome := by
      intro c' hc'; rw [applyOp_addNodeBalance_nodes]; exact hreg c' (List.mem_cons_of_mem _ hc')
    simp only [toOps, List.map_cons, creditAdded, opCredit, hn, amounts, sumInts, List.foldr_cons] at *
    rw [ih _ hrest]

theorem amounts_flatten (threads : List (List (String × Int))) (h : ∀ t ∈ threads, amounts t = 0) :
    amounts threads.flatten = 0 := by
  induction threads with
  | nil => rfl
  | cons t ts ih =>
    have h1 : sumInts (t.map (·.2)) = 0 := h t List.mem_cons_self
    have h2 : sumInts (ts.flatten.map (·.2)) = 0 := ih fun t' ht' => h t' (List.mem_cons_of_mem _ ht')
    simp only [List.flatten_cons, amounts, List.map_append, sumInts_append, h1, h2]; rfl

/-- **Zero-sum under every schedule.** Any number of concurrent requests whose balance calls are
individually balanced (credits to peers = debit of the client), executed in *any* interleaving
`sched` of their atomic store calls, leave the ledger total unchanged. -/
theorem ledger_all_schedules (s : Store) (threads : List (List (String × Int))) (sched : List (String × Int))
    (hbal : ∀ t ∈ threads, amounts t = 0)
    (hsched : sched.Perm threads.flatten)
    (hreg : ∀ t ∈ threads, ∀ c ∈ t, (s.nodes.get c.1).isSome) :
    ledgerSum (Store.run s (toOps sched)) = ledgerSum s := by
  have hreg' : ∀ c ∈ sched, (s.nodes.get c.1).isSome := by
    intro c hc
    have := (hsched.mem_iff).1 hc
    obtain ⟨t, ht, hct⟩ := List.mem_flatten.1 this
    exact hreg t ht c hct
  rw [ledger_run, creditAdded_registered s sched hreg']
  have : amounts sched = amounts threads.flatten := sumInts_perm (hsched.map _)
  rw [this, amounts_flatten threads hbal]; omega

/-- the manager's thread for one keep-alive is balanced: k credits of `c` and one debit of the total -/
theorem keepalive_thread_balanced (client : String) (peers : List String) (c : Int) :
    amounts (peers.map (fun p => (p, c)) ++ [(client, -(peers.length * c))]) = 0 := by
  have : sumInts (peers.map fun _ => c) = peers.length * c := by rw [List.map_const']; exact List.sum_replicate_int
  simp only [amounts, List.map_append, List.map_map, sumInts_append, Function.comp_def, this]
  exact (congrArg _ (Int.add_zero _)).trans (Int.add_right_neg _)

/-! ### non-vacuity -/

/-- a concrete history: host and client connect, the client is billed for two minutes at price 1000/min,
then links a wallet and the host withdraws nothing; the ledger stays at 0 throughout -/
example :
    let cfg : PoolCfg := { bal := { price := 1000 } }
    let p := run { cfg := cfg } [
      .connect (some "c1") "1.2.3.4" true "h" 1 { isFull := true } 1000,
      .connect none "" true "c" 2 {} 1000,
      .update true "c" 3 ["h"] 7 2000 2000 (fun _ => false),
      .update true "h" 4 ["c"] 8 120000001000 120000001000 (fun _ => false),
      .update true "c" 5 ["h"] 8 120000002000 120000002000 (fun _ => false)]
    (p.store.nodeBalance "h").credit = 2000 ∧ (p.store.nodeBalance "c").credit = -2000 ∧ ledgerSum p.store = 0 := by
  decide +kernel

end Vipnode.C01
