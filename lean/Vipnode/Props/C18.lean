/-
C18 — The agent makes its node's peers match what the pool says.
Theorems about `round` (`Agent.UpdatePeers` / `AddPeers`).
-/
import Vipnode.Model.Agent
namespace Vipnode.C18
open Vipnode

theorem mem_dedup (l : List String) (x : String) : x ∈ dedupKeepFirst l ↔ x ∈ l := by
  induction l with
  | nil => simp [dedupKeepFirst]
  | cons a t ih => by_cases e : x = a <;> simp [dedupKeepFirst, List.mem_filter, ih, e]

theorem nodup_dedup (l : List String) : (dedupKeepFirst l).Nodup := by
  induction l with
  | nil => simp [dedupKeepFirst]
  | cons a t ih =>
    simp only [dedupKeepFirst, List.nodup_cons, List.mem_filter, bne_iff_ne, ne_eq]
    exact ⟨fun h => h.2 trivial, ih.filter _⟩

/-- **who is dropped**: exactly the peers the pool declared invalid and — with strict peering — the local peers
the pool does not list as active under the same host address -/
theorem dropped_iff (cfg : AgentCfg) (locals : List LocalPeer) (active : List ActiveEntry) (invalid : List String) (x : String) :
    x ∈ dropList cfg locals active invalid ↔
      x ∈ invalid ∨ (cfg.strict = true ∧ ∃ p ∈ locals, matchesActive active p = false ∧ p.resolved = x) := by
  cases hs : cfg.strict <;> simp [dropList, mem_dedup, hs, and_assoc]

/-- without strict peering: the pool's invalid peers and no other peer -/
theorem dropped_nonstrict (cfg : AgentCfg) (locals : List LocalPeer) (active : List ActiveEntry) (invalid : List String)
    (h : cfg.strict = false) (x : String) : x ∈ dropList cfg locals active invalid ↔ x ∈ invalid := by
  rw [dropped_iff]; simp [h]

/-- a local peer is kept by strict peering iff the pool lists its id as active with the same host — ports play
no role (the structured views carry none) -/
theorem strict_keeps_iff (active : List ActiveEntry) (p : LocalPeer) :
    matchesActive active p = true ↔ p.uriOk = true ∧ lookupActive active p.id = some p.host := by
  simp [matchesActive]

/-- the un-trust and disconnect calls for a list of ids -/
abbrev dropCalls (ids : List String) : List NodeCall := ids.flatMap fun id => [.removeTrusted id, .disconnect id]

/-- a round whose keep-alive succeeded, in closed form: the drop calls, then (only when peers are missing and the
pool returned hosts) the connect calls; the peer request is made iff peers are missing -/
theorem round_spec (cfg : AgentCfg) (locals : List LocalPeer) (active : List ActiveEntry) (invalid : List String)
    (peer : PeerOutcome) (failAt : Option Nat) :
    let out := round cfg locals true active invalid peer failAt
    let dc := dropCalls (dropList cfg locals active invalid)
    let need := cfg.target - active.length
    out.nodeCalls = dc ++ (if need ≤ 0 then [] else match peer with
      | .hosts uris => (connectCalls uris dc.length failAt).1
      | _ => []) ∧
    out.peerRequest = if need ≤ 0 then none else some (need, peerKind cfg) := by
  by_cases h : cfg.target - active.length ≤ 0
  · simp only [round, Bool.not_true, Bool.false_eq_true, ↓reduceIte, h, List.append_nil, and_self]
  · cases peer <;> simp only [round, Bool.not_true, Bool.false_eq_true, ↓reduceIte, h, List.append_nil, and_self]

/-- connects are made, in order, to an initial segment of the returned hosts: to all of them when no call fails -/
theorem connectCalls_fst (uris : List String) (base : Nat) (failAt : Option Nat) :
    ∃ k, (connectCalls uris base failAt).1 = (uris.take k).map NodeCall.connect ∧ (failAt = none → k = uris.length) := by
  induction uris generalizing base with
  | nil => exact ⟨0, rfl, fun _ => rfl⟩
  | cons u us ih =>
    obtain ⟨k, hk, hn⟩ := ih (base + 1)
    unfold connectCalls
    split
    · next h => exact ⟨1, by simp, fun e => by simp [e] at h⟩
    · exact ⟨k + 1, by simp [hk], fun e => by simp [hn e]⟩

/-- all calls of a round are the drop calls followed by connects -/
theorem round_calls (cfg : AgentCfg) (locals : List LocalPeer) (active : List ActiveEntry) (invalid : List String)
    (peer : PeerOutcome) (failAt : Option Nat) :
    ∃ us : List String, (round cfg locals true active invalid peer failAt).nodeCalls =
      dropCalls (dropList cfg locals active invalid) ++ us.map NodeCall.connect := by
  rw [(round_spec ..).1]
  split
  · exact ⟨[], rfl⟩
  · split
    · obtain ⟨k, hk, _⟩ := connectCalls_fst ..
      exact ⟨_, by rw [hk]⟩
    · exact ⟨[], rfl⟩

/-- every dropped peer is handled exactly once: un-trusted, then disconnected -/
theorem drop_calls (cfg : AgentCfg) (locals : List LocalPeer) (active : List ActiveEntry) (invalid : List String)
    (peer : PeerOutcome) (failAt : Option Nat) :
    let out := round cfg locals true active invalid peer failAt
    let drops := dropList cfg locals active invalid
    drops.Nodup ∧
    (drops.flatMap (fun id => [NodeCall.removeTrusted id, NodeCall.disconnect id])) <+: out.nodeCalls := by
  obtain ⟨us, h⟩ := round_calls cfg locals active invalid peer failAt
  exact ⟨nodup_dedup _, h ▸ List.prefix_append _ _⟩

/-- the only un-trust / disconnect calls of a round are those of the drop list -/
theorem no_other_peer_dropped (cfg : AgentCfg) (locals : List LocalPeer) (active : List ActiveEntry) (invalid : List String)
    (peer : PeerOutcome) (failAt : Option Nat) (updateOk : Bool) (id : String)
    (h : NodeCall.removeTrusted id ∈ (round cfg locals updateOk active invalid peer failAt).nodeCalls ∨
         NodeCall.disconnect id ∈ (round cfg locals updateOk active invalid peer failAt).nodeCalls) :
    id ∈ dropList cfg locals active invalid := by
  cases updateOk with
  | false => simp [round] at h
  | true =>
    obtain ⟨us, e⟩ := round_calls cfg locals active invalid peer failAt
    simpa [e] using h

/-- **shortfall**: with fewer active peers than the target, the agent asks the pool for exactly the shortfall, of
its own node kind when it is a light client (any kind when it is a full node), and connects to every host returned,
in order; otherwise it asks for nothing and connects to nobody -/
theorem shortfall (cfg : AgentCfg) (locals : List LocalPeer) (active : List ActiveEntry) (invalid : List String)
    (peer : PeerOutcome) :
    let out := round cfg locals true active invalid peer none
    let need := cfg.target - active.length
    (0 < need → out.peerRequest = some (need, if cfg.isFull then "" else cfg.kind) ∧
        ∀ uris, peer = .hosts uris → (out.nodeCalls.filterMap (fun c => match c with | .connect u => some u | _ => none)) = uris) ∧
    (need ≤ 0 → out.peerRequest = none ∧ ∀ u, NodeCall.connect u ∉ out.nodeCalls) := by
  intro out need
  obtain ⟨hc, hp⟩ : out.nodeCalls = _ ∧ out.peerRequest = _ := round_spec cfg locals active invalid peer none
  refine ⟨fun h => ?_, fun (h : cfg.target - active.length ≤ 0) => by simp [hc, hp, if_pos h]⟩
  have h' : ¬ cfg.target - active.length ≤ 0 := Int.not_le.2 h
  rw [hc, hp, if_neg h', if_neg h']
  refine ⟨rfl, fun uris e => ?_⟩
  obtain ⟨k, hk, hn⟩ := connectCalls_fst uris (dropCalls (dropList cfg locals active invalid)).length none
  subst e
  simp only [hk, hn rfl, List.take_length]
  simp [List.filterMap_append, List.filterMap_map, List.filterMap_flatMap, Function.comp_def]

/-- **a failed keep-alive changes nothing on the node**: no call to the node, no peer request -/
theorem failed_keepalive_no_calls (cfg : AgentCfg) (locals : List LocalPeer) (active : List ActiveEntry)
    (invalid : List String) (peer : PeerOutcome) (failAt : Option Nat) :
    round cfg locals false active invalid peer failAt = { result := .updateFailed } := by
  simp [round]

/-- multi-round histories: each round depends only on that round's inputs, so the theorems above hold round by
round for every history of rounds -/
theorem multi_round (cfg : AgentCfg) (rounds : List (List LocalPeer × Bool × List ActiveEntry × List String × PeerOutcome)) :
    ∀ r ∈ rounds, r.2.1 = false → (round cfg r.1 r.2.1 r.2.2.1 r.2.2.2.1 r.2.2.2.2).nodeCalls = [] := by
  intro r _ h; rw [h, failed_keepalive_no_calls]

/-- the pre-repair strict list (the pool's invalid peers discarded): witness for the repaired defect (DESIGN.md §9 F15) -/
def dropListOld (cfg : AgentCfg) (locals : List LocalPeer) (active : List ActiveEntry) (invalid : List String) : List String :=
  if cfg.strict then (locals.filter (fun p => !matchesActive active p)).map (·.resolved) else invalid

theorem old_strict_counterexample :
    let cfg : AgentCfg := { strict := true }
    -- the pool declares "gone" invalid; it is not connected right now
    dropListOld cfg [] [] ["gone"] = [] ∧ dropList cfg [] [] ["gone"] = ["gone"] := by decide

/-- non-vacuity: strict peering, one matching peer, one with another host, one the pool does not know; the pool
declares "x" invalid; target 3 with 2 active peers: one more is requested and connected -/
example :
    let cfg : AgentCfg := { strict := true, target := 3, kind := "parity" }
    let locals : List LocalPeer := [{ id := "a", host := "1.1.1.1", resolved := "a" }, { id := "b", host := "9.9.9.9", resolved := "b" },
      { id := "c", host := "3.3.3.3", resolved := "c" }]
    let active : List ActiveEntry := [{ parsed := some ("a", "1.1.1.1") }, { parsed := some ("b", "2.2.2.2") }]
    round cfg locals true active ["x"] (.hosts ["enode://h1@5.5.5.5:30303"]) =
      { nodeCalls := [.removeTrusted "x", .disconnect "x", .removeTrusted "b", .disconnect "b", .removeTrusted "c", .disconnect "c",
                      .connect "enode://h1@5.5.5.5:30303"],
        peerRequest := some (1, "parity"), result := .ok } := by decide +kernel

/-! ### what reaches the node

The agent hands the pool's host URIs to `EthNode.ConnectPeer`; for a geth node that goes through `encodeNodeID`
(component `ethrpc` runs the real wrapper against a recording RPC server). -/

/-- **a host URI reaches the node unchanged** — address, port and query included -/
theorem encode_keeps_uri (s : String) (h : hasEnodePrefix s = true) : encodeNodeID s = s := by
  simp [encodeNodeID, h]

/-- a bare id only gets the prefix geth insists on -/
theorem encode_prefixes_bare_id (s : String) (h : hasEnodePrefix s = false) : encodeNodeID s = "enode://" ++ s := by
  simp [encodeNodeID, h]

example : encodeNodeID "enode://ab@127.0.0.1:30304?discport=1" = "enode://ab@127.0.0.1:30304?discport=1" ∧
    encodeNodeID "ab" = "enode://ab" := by decide +kernel

end Vipnode.C18
