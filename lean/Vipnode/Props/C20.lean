/-
C20 — An agent runs one keep-alive loop that can always be stopped and restarted.

Theorems about the life-cycle state machine of `Model/Agent.lean` (`Start`,
`Stop`, `Wait`, the update loop of `agent/agent.go`), for every sequence and
interleaving of events — including events that arrive when they "should not"
(a second start while starting, a stop without a loop, ticks after the loop
ended).  The update-interval clause is a regenerated fact: the built binary is
probed with a grid of `--update-interval` values on every run.
-/
import Vipnode.Model.Agent
import Vipnode.Generated.Facts
namespace Vipnode.C20
open Vipnode

/-- the invariant of every reachable life-cycle state -/
def Inv (s : Life) : Prop :=
  s.loops ≤ 1 ∧ (s.started = true ↔ (s.starting = true ∨ s.loops = 1)) ∧ ¬ (s.starting = true ∧ s.loops = 1)

theorem inv_init : Inv {} := by simp [Inv]

/-- a reachable agent is idle, starting, or running one loop -/
theorem inv_cases {s : Life} (h : Inv s) :
    (s.started = false ∧ s.starting = false ∧ s.loops = 0) ∨ (s.started = true ∧ s.starting = true ∧ s.loops = 0) ∨
    (s.started = true ∧ s.starting = false ∧ s.loops = 1) := by
  obtain ⟨h1, h2, h3⟩ := h
  by_cases hl : s.loops = 1
  · exact .inr (.inr ⟨h2.2 (.inr hl), Bool.eq_false_iff.2 fun hs => h3 ⟨hs, hl⟩, hl⟩)
  · cases hs : s.starting with
    | true => exact .inr (.inl ⟨h2.2 (.inl hs), rfl, by omega⟩)
    | false => exact .inl ⟨Bool.eq_false_iff.2 fun hst => (h2.1 hst).elim (by simp [hs]) hl, rfl, by omega⟩

theorem inv_step (s : Life) (ev : LifeEv) (h : Inv s) : Inv (lifeStep s ev).1 := by
  -- in each of the three modes the event decides the three fields of the next state
  rcases inv_cases h with ⟨hs, hst, hl⟩ | ⟨hs, hst, hl⟩ | ⟨hs, hst, hl⟩ <;> cases ev with
  | wait => simp only [lifeStep]; split <;> exact h
  | startFinish ok => cases ok <;> simp [lifeStep, Inv, hs, hst, hl]
  | tick ok => cases ok <;> simp [lifeStep, Inv, hs, hst, hl]
  | _ => simp [lifeStep, Inv, hs, hst, hl]

theorem inv_run (s : Life) (evs : List LifeEv) (h : Inv s) : Inv (lifeRun s evs) :=
  List.foldlRecOn evs _ h fun s hs ev _ => inv_step s ev hs

/-- **at most one keep-alive loop**, after every sequence / interleaving of start, stop, wait and tick events -/
theorem at_most_one_loop (evs : List LifeEv) : (lifeRun {} evs).loops ≤ 1 := (inv_run {} evs inv_init).1

/-- **starting again while running (or while another start is in progress) is refused** and changes nothing -/
theorem second_start_refused (s : Life) (h : s.started = true) : lifeStep s .startBegin = (s, .refused) := by
  simp [lifeStep, h]

/-- while a loop runs the agent counts as started, so every further start is refused -/
theorem running_refuses_start (evs : List LifeEv) (h : (lifeRun {} evs).loops = 1) :
    (lifeStep (lifeRun {} evs) .startBegin).2 = .refused := by
  obtain ⟨_, hstarted, _⟩ := inv_run {} evs inv_init
  rw [second_start_refused _ (hstarted.2 (.inr h))]

/-- **a start that fails at the pool leaves nothing running**, and the agent can be started again -/
theorem failed_start_leaves_nothing (s : Life) (h : Inv s) (hs : s.started = false) :
    let s1 := (lifeStep s .startBegin).1
    let s2 := (lifeStep s1 (.startFinish false)).1
    s2.loops = 0 ∧ s2.started = false ∧ (lifeStep s2 .startBegin).2 = .accepted := by
  rcases inv_cases h with ⟨_, _, hl⟩ | ⟨h', _⟩ | ⟨h', _⟩
  · simp [lifeStep, hs, hl]
  · simp [hs] at h'
  · simp [hs] at h'

/-- **stopping ends the loop so that waiting returns** (cleanly), **after which it can be started again** -/
theorem stop_ends_loop_wait_returns (s : Life) (h : s.loops = 1) :
    let s1 := (lifeStep s .stop).1
    s1.loops = 0 ∧ s1.started = false ∧ (∃ r, (lifeStep s1 .wait).2 = .returned r) ∧
    (s.waitBuf = [] → (lifeStep s1 .wait).2 = .returned true) ∧ (lifeStep s1 .startBegin).2 = .accepted := by
  refine ⟨by simp [lifeStep, h], by simp [lifeStep, h], ?_, ?_, by simp [lifeStep, h]⟩
  · cases hw : s.waitBuf with
    | nil => exact ⟨true, by simp [lifeStep, h, hw]⟩
    | cons r rest => exact ⟨r, by simp [lifeStep, h, hw]⟩
  · intro hw; simp [lifeStep, h, hw]

/-- a loop that ends on a failed keep-alive also releases waiters (with the error) and allows a restart; a later
stop has nothing to stop and returns at once -/
theorem failed_keepalive_ends_loop (s : Life) (h : s.loops = 1) (hw : s.waitBuf = []) :
    let s1 := (lifeStep s (.tick false)).1
    s1.loops = 0 ∧ s1.started = false ∧ (lifeStep s1 .wait).2 = .returned false ∧
    (lifeStep s1 .stop).2 = .ignored ∧ (lifeStep s1 .startBegin).2 = .accepted := by
  simp [lifeStep, h, hw]

/-- **one keep-alive per interval**: a tick sends exactly one keep-alive when a loop runs, none otherwise -/
theorem one_keepalive_per_tick (evs : List LifeEv) (ok : Bool) :
    let s := lifeRun {} evs
    (lifeStep s (.tick ok)).1.keepalives = s.keepalives + (if s.loops = 1 then 1 else 0) := by
  rcases inv_cases (inv_run {} evs inv_init) with ⟨_, _, hl⟩ | ⟨_, _, hl⟩ | ⟨_, _, hl⟩ <;> cases ok <;> simp [lifeStep, hl]

/-- **Stop can only be kept waiting by a Start that has not finished**: in every reachable state, a `Stop` that does
not return at once finds a start attempt in progress (and returns once that attempt has started its loop or failed) -/
theorem stop_blocks_only_while_starting (evs : List LifeEv) (h : (lifeStep (lifeRun {} evs) .stop).2 = .blocked) :
    (lifeRun {} evs).starting = true := by
  rcases inv_cases (inv_run {} evs inv_init) with ⟨h1, _, hl⟩ | ⟨_, h', _⟩ | ⟨_, _, hl⟩
  · simp [lifeStep, h1, hl] at h
  · exact h'
  · simp [lifeStep, hl] at h

/-- two callers stopping at once: served in either order, both return (the second finds the loop gone) -/
theorem two_stops_both_return (s : Life) (h : Inv s) (hs : s.starting = false) :
    (lifeStep s .stop).2 ≠ .blocked ∧ (lifeStep (lifeStep s .stop).1 .stop).2 ≠ .blocked := by
  rcases inv_cases h with ⟨h1, _, hl⟩ | ⟨_, h', _⟩ | ⟨_, _, hl⟩
  · simp [lifeStep, h1, hl]
  · simp [hs] at h'
  · simp [lifeStep, hl]

/-- a Stop that is pending while the loop ends on its own (failed keep-alive) returns: the agent is left stopped, the
failure waits to be collected -/
theorem stop_pending_when_loop_dies (s : Life) (hl : s.loops = 1) :
    let s1 := (lifeStep s (.tick false)).1
    (lifeStep s1 .stop).2 = .ignored ∧ (lifeStep s1 .stop).1.loops = 0 ∧ (lifeStep s1 .stop).1.started = false ∧
    (lifeStep s1 .stop).1.waitBuf = s.waitBuf ++ [false] := by
  simp [lifeStep, hl]

/-- a full cycle: start, three intervals, stop, wait, start again -/
theorem restart_after_stop :
    let s := lifeRun {} [.startBegin, .startFinish true, .tick true, .tick true, .tick true, .stop, .wait, .startBegin, .startFinish true]
    s.loops = 1 ∧ s.keepalives = 3 ∧ s.started = true := by decide +kernel

/-- two racing starts: whichever order their steps interleave in, one loop results -/
example : (lifeRun {} [.startBegin, .startBegin, .startFinish true, .startFinish true]).loops = 1 ∧
          (lifeRun {} [.startBegin, .startFinish true, .startBegin, .startFinish true]).loops = 1 := by decide +kernel

/-- the pre-repair `Start` never set `started`: two starts ran two loops (DESIGN.md §9 F14) -/
def lifeStepOld (s : Life) : LifeEv → Life
  | .startBegin => { s with starting := true }
  | .startFinish ok => if ok then { s with starting := false, loops := s.loops + 1 } else { s with starting := false }
  | e => (lifeStep s e).1

theorem old_double_start_counterexample :
    ([LifeEv.startBegin, .startFinish true, .startBegin, .startFinish true].foldl lifeStepOld {}).loops = 2 := by decide +kernel

/-! ### update interval accepted by the command line -/

/-- **only intervals shorter than the pool's expiry window are accepted**: every probed `--update-interval`
value that the built binary accepted is below `store.ExpireInterval` (regenerated and re-proved on every run) -/
theorem accepted_below_expiry : ∀ p ∈ Facts.intervalProbe, p.2 = true → p.1 < Facts.expireIntervalNs := by decide +kernel

/-- the expiry window itself and everything probed above it is refused; the default 60 s is accepted -/
theorem expiry_refused :
    (Facts.expireIntervalNs, false) ∈ Facts.intervalProbe ∧ (60000000000, true) ∈ Facts.intervalProbe ∧
    ∀ p ∈ Facts.intervalProbe, Facts.expireIntervalNs ≤ p.1 → p.2 = false := by decide +kernel

end Vipnode.C20
