/-
C07 — the deposit cache never turns a failed lookup into money.

`Withdraw` pays deposit + credit; the deposit comes through `balanceCache.Get`.  These theorems are about the model
of that cache (`Model/Cache.lean`, compared with the real `balanceCache` by the `cache` stream under an injected
clock): what `Get` answers is either an entry that is still valid at that moment or what the contract answers at
that moment — never an expired entry, and nothing at all when the entry is expired and the lookup fails (seeded
change C07-r5 served the expired entry in that case: an emptied wallet was paid its old deposit again).
-/
import Vipnode.Model.Cache
import Vipnode.Lemmas.AList
namespace Vipnode.C07C
open Vipnode Vipnode.DCache

/-- **what `Get` answers**: a live entry's value, or the getter's answer -/
theorem get_answer (c : DCache) (acct : String) (now : Int) (getter : Option Int) :
    (c.get acct now getter).2 =
      match c.items.get acct with
      | some it => if live it now then some it.value else getter
      | none => getter := by
  unfold DCache.get
  cases h : c.items.get acct with
  | none => cases getter <;> rfl
  | some it =>
    simp only
    cases hl : live it now with
    | true => simp
    | false => cases getter <;> simp

/-- `Get` fails exactly when there is no live entry and the lookup fails -/
theorem get_fails_iff (c : DCache) (acct : String) (now : Int) (getter : Option Int) :
    (c.get acct now getter).2 = none ↔ getter = none ∧ ∀ it, c.items.get acct = some it → live it now = false := by
  rw [get_answer]
  cases c.items.get acct with
  | none => simp
  | some it => cases hl : live it now <;> simp [hl]

/-- **an expired entry is never served**: if the entry is expired (or absent) and the lookup fails, `Get` fails -/
theorem expired_and_failing_lookup_fails (c : DCache) (acct : String) (now : Int)
    (h : ∀ it, c.items.get acct = some it → live it now = false) : (c.get acct now none).2 = none :=
  (get_fails_iff c acct now none).2 ⟨rfl, h⟩

/-- a value set at `now` (a balance event, or a lookup) is served until it expires, and no longer -/
theorem set_then_get (c : DCache) (acct : String) (v now later : Int) (getter : Option Int) :
    ((c.set acct v now).get acct later getter).2 =
      if c.expireAfter = 0 ∨ later < now + c.expireAfter then some v else getter := by
  rw [get_answer, show (c.set acct v now).items.get acct = _ from AList.get_set_eq _ _ _]
  by_cases h0 : c.expireAfter = 0
  · simp [h0, live]
  · by_cases hl : later < now + c.expireAfter <;> simp [h0, hl, live]

/-- after `Reset` everything is looked up again -/
theorem reset_forgets (c : DCache) (d : Int) (acct : String) (now : Int) (getter : Option Int) :
    ((c.reset d).get acct now getter).2 = getter := by
  rw [get_answer]; rfl

/-- the scenario of the seeded change: deposit 9000 cached, the wallet is emptied on chain, the entry expires, the
lookup fails: nothing is served -/
example :
    let c0 : DCache := { expireAfter := 10 }
    let c1 := (c0.get "w" 0 (some 9000)).1
    (c1.get "w" 5 none).2 = some 9000 ∧ (c1.get "w" 10 none).2 = none ∧ (c1.get "w" 10 (some 0)).2 = some 0 := by decide +kernel

end Vipnode.C07C
