/-
C05 — A signed request is honoured at most once; nonces only move forward.

Theorems about `Store.checkAndSaveNonce` (both drivers' `CheckAndSaveNonce`)
for every history of submissions, about racing duplicates under the memory
driver's mutex (any order of atomic steps) and under the badger driver's
optimistic transactions (any schedule of start/commit events), and about the
badger driver's expiring nonce entries.
-/
import Vipnode.Lemmas.Store
import Vipnode.Model.NonceTtl
namespace Vipnode.C05
open Vipnode Vipnode.AList
open Vipnode.Store (checkAndSaveNonce)
open Vipnode.NonceTtl

/-- a submission: identity, nonce, clock reading of the store -/
structure Sub where
  id : String
  nonce : Int
  now : Int

/-- run a history of submissions, collecting the accepted ones (newest first) -/
def runSubs : Store → List Sub → Store × List (String × Int)
  | s, [] => (s, [])
  | s, x :: xs =>
    match s.checkAndSaveNonce x.id x.nonce x.now with
    | .ok s' => let (sf, acc) := runSubs s' xs; (sf, acc ++ [(x.id, x.nonce)])
    | .error _ => runSubs s xs

def tbl (s : Store) (id : String) : Int := (s.nonces.get id).getD 0

theorem check_eq (s : Store) (id : String) (n now : Int) :
    s.checkAndSaveNonce id n now =
      if n ≤ now - nonceWindow ∨ n ≤ tbl s id then .error .invalidNonce
      else .ok { s with nonces := s.nonces.set id n } :=
  Store.checkAndSaveNonce_eq s id n now

theorem tbl_set (s : Store) (id id' : String) (n : Int) :
    tbl { s with nonces := s.nonces.set id n } id' = if id' = id then n else tbl s id' := by
  unfold tbl
  split
  · subst id'; simp only [get_set_eq]; rfl
  · rename_i hne; simp only [get_set_ne _ _ (Ne.symm hne)]

/-- the entry of `id` was below an honoured nonce and now equals it; no other entry moved -/
theorem accept_spec {s s' : Store} {id : String} {n now : Int} (h : s.checkAndSaveNonce id n now = .ok s') :
    tbl s id < n ∧ ∀ id', tbl s' id' = if id' = id then n else tbl s id' := by
  rw [check_eq] at h
  split at h
  · cases h
  · cases h; exact ⟨Int.not_le.1 (not_or.1 ‹_›).2, fun id' => tbl_set s id id' n⟩

theorem tbl_le_of_ok {s s' : Store} {id : String} {n now : Int} (h : s.checkAndSaveNonce id n now = .ok s')
    (id' : String) : tbl s id' ≤ tbl s' id' := by
  obtain ⟨hlt, heq⟩ := accept_spec h
  rw [heq]; split
  · subst id'; exact Int.le_of_lt hlt
  · exact Int.le_refl _

/-- a stale nonce (not newer than now − 15 min) is always rejected -/
theorem stale_rejected (s : Store) (id : String) (n now : Int) (h : n ≤ now - nonceWindow) :
    s.checkAndSaveNonce id n now = .error .invalidNonce := by
  rw [check_eq, if_pos (.inl h)]

/-- a nonce not strictly greater than the last accepted one is rejected -/
theorem not_greater_rejected (s : Store) (id : String) (n now : Int) (h : n ≤ tbl s id) :
    s.checkAndSaveNonce id n now = .error .invalidNonce := by
  rw [check_eq, if_pos (.inr h)]

/-- a fresh nonce above the last accepted one is accepted -/
theorem fresh_greater_accepted (s : Store) (id : String) (n now : Int) (h1 : now - nonceWindow < n) (h2 : tbl s id < n) :
    ∃ s', s.checkAndSaveNonce id n now = .ok s' :=
  ⟨_, by rw [check_eq, if_neg (not_or.2 ⟨Int.not_le.2 h1, Int.not_le.2 h2⟩)]⟩

/-- nonces of one identity never affect another: the verdict on `id` only depends on `id`'s own entry -/
theorem identities_independent (s₁ s₂ : Store) (id : String) (n now : Int) (h : tbl s₁ id = tbl s₂ id) :
    (s₁.checkAndSaveNonce id n now).isOk = (s₂.checkAndSaveNonce id n now).isOk := by
  rw [check_eq, check_eq, h]; split <;> rfl

/-- every nonce accepted along a history is above the table's value at the start -/
theorem accepted_above (s : Store) (xs : List Sub) : ∀ a ∈ (runSubs s xs).2, tbl s a.1 < a.2 := by
  induction xs generalizing s with
  | nil => intro a ha; cases ha
  | cons x xs ih =>
    unfold runSubs
    split
    · rename_i s' h
      intro a ha
      rcases List.mem_append.1 ha with ha | ha
      · exact Int.lt_of_le_of_lt (tbl_le_of_ok h a.1) (ih s' a ha)
      · cases List.mem_singleton.1 ha; exact (accept_spec h).1
    · exact ih s

/-- **forward only**: along any history the accepted nonces of each identity are strictly increasing
(the list is newest first: every earlier acceptance of the same identity carries a smaller nonce) -/
theorem accepted_strictly_increasing (s : Store) (xs : List Sub) :
    ((runSubs s xs).2).Pairwise (fun newer older => newer.1 = older.1 → older.2 < newer.2) := by
  induction xs generalizing s with
  | nil => exact .nil
  | cons x xs ih =>
    unfold runSubs
    split
    · rename_i s' h
      refine List.pairwise_append.2 ⟨ih s', List.pairwise_singleton _ _, ?_⟩
      intro a ha b hb e
      cases List.mem_singleton.1 hb
      -- everything accepted later lies above the table after this acceptance, whose entry for `x.id` is `x.nonce`
      have := accepted_above s' xs a ha
      rwa [(accept_spec h).2, if_pos e] at this
    · exact ih s

/-- **at most once**: no (identity, nonce) pair is accepted twice in any history -/
theorem at_most_once (s : Store) (xs : List Sub) : ((runSubs s xs).2).Nodup :=
  (accepted_strictly_increasing s xs).imp fun hab e => by have := hab (e ▸ rfl); rw [e] at this; omega

/-! ### nonces and the rest of the store

The nonce table is only ever written by `CheckAndSaveNonce`: no keep-alive, registration, balance update or link of
any node forgets or lowers an entry, so a replay stays refused however much other traffic the store sees in
between (seeded change C05-r4 made the memory driver's keep-alive expire entries older than two minutes). -/

inductive AnyOp
  | nonce (x : Sub)
  | setNode (n : Node)
  | addNodeBalance (id : String) (amt : Int)
  | addAccountBalance (a : String) (amt : Int)
  | addAccountNode (a id : String)
  | updateNodePeers (id : String) (reported : List String) (block : Nat) (now : Int)

def applyAny (s : Store) : AnyOp → Store
  | .nonce x => match s.checkAndSaveNonce x.id x.nonce x.now with | .ok s' => s' | .error _ => s
  | .setNode n => match s.setNode n with | .ok s' => s' | .error _ => s
  | .addNodeBalance id amt => match s.addNodeBalance id amt with | .ok s' => s' | .error _ => s
  | .addAccountBalance a amt => s.addAccountBalance a amt
  | .addAccountNode a id => match s.addAccountNode a id with | .ok s' => s' | .error _ => s
  | .updateNodePeers id rep blk now => match s.updateNodePeers id rep blk now with | .ok r => r.1 | .error _ => s

/-- **only `CheckAndSaveNonce` writes the nonce table** -/
theorem other_ops_keep_nonces (s : Store) (op : AnyOp) (h : ∀ x, op ≠ .nonce x) : (applyAny s op).nonces = s.nonces := by
  -- every branch of every other operation is the old store or a record update of other fields
  cases op with
  | nonce x => exact absurd rfl (h x)
  | setNode n => by_cases hn : n.id = "" <;> simp [applyAny, Store.setNode, hn]
  | addNodeBalance id amt =>
    simp only [applyAny, Store.addNodeBalance]
    cases s.nodes.get id with
    | none => rfl
    | some _ => cases s.accounts.get id <;> rfl
  | addAccountBalance a amt => rfl
  | addAccountNode a id => simp only [applyAny, Store.addAccountNode]; cases s.nodes.get id <;> rfl
  | updateNodePeers id rep blk now => simp only [applyAny, Store.updateNodePeers]; cases s.nodes.get id <;> rfl

theorem tbl_monotone_step (s : Store) (op : AnyOp) (id : String) : tbl s id ≤ tbl (applyAny s op) id := by
  cases op with
  | nonce x =>
    simp only [applyAny]
    split
    · exact tbl_le_of_ok ‹_› id
    · exact Int.le_refl _
  | _ => unfold tbl; rw [other_ops_keep_nonces _ _ (by intro x hx; cases hx)]; exact Int.le_refl _

/-- the table only moves forward along any history of store operations -/
theorem tbl_monotone_any (s : Store) (ops : List AnyOp) (id : String) : tbl s id ≤ tbl (ops.foldl applyAny s) id :=
  List.foldlRecOn ops applyAny (Int.le_refl _) fun st h op _ => Int.le_trans h (tbl_monotone_step st op id)

/-- **a replay stays refused across any other store traffic**: once a nonce was honoured, the same nonce (and every
smaller one) of that identity is refused after any sequence of store operations of any identities and nodes, at any
later clock reading -/
theorem replay_rejected_across_ops (s s' : Store) (id : String) (n m now now' : Int) (between : List AnyOp)
    (h : s.checkAndSaveNonce id n now = .ok s') (hm : m ≤ n) :
    (between.foldl applyAny s').checkAndSaveNonce id m now' = .error .invalidNonce := by
  have h1 : tbl s' id = n := by rw [(accept_spec h).2, if_pos rfl]
  exact not_greater_rejected _ id m now' (Int.le_trans hm (h1 ▸ tbl_monotone_any s' between id))

/-- a history of submissions is a history of store operations -/
theorem runSubs_fst (s : Store) (xs : List Sub) : (runSubs s xs).1 = (xs.map .nonce).foldl applyAny s := by
  induction xs generalizing s with
  | nil => rfl
  | cons x xs ih =>
    simp only [runSubs, List.map_cons, List.foldl_cons, applyAny]
    split <;> exact ih _

/-- a captured request replayed at any later time, any number of times, is never honoured again:
once `(id, n)` was accepted, every later submission of `(id, n)` is rejected, whatever happened in between -/
theorem replay_rejected (s s' : Store) (id : String) (n now now' : Int) (between : List Sub)
    (h : s.checkAndSaveNonce id n now = .ok s') :
    ((runSubs s' between).1.checkAndSaveNonce id n now').isOk = false := by
  rw [runSubs_fst, replay_rejected_across_ops s s' id n n now now' _ h (Int.le_refl n)]; rfl

/-- non-vacuity: the premise of `replay_rejected_across_ops` is met (a first nonce on an empty store is honoured) -/
example : ∃ s', Store.empty.checkAndSaveNonce "a" 5 5 = .ok s' := ⟨_, rfl⟩

/-! ### racing duplicates

Memory driver: `CheckAndSaveNonce` runs under the store mutex, so k concurrent copies execute in
*some* order — `at_most_once` above covers every order.  Badger driver: each call is an optimistic
transaction (read the entry at `start`, write at `commit`, which fails with a conflict if the entry
was committed by someone else after `start`).  Every schedule of start/commit events of any number
of copies of the same request accepts at most one. -/

inductive Ev | start (t : Nat) | commit (t : Nat)

structure TxState where
  val : Int := 0            -- committed value of the identity's entry
  ver : Nat := 0            -- commit counter of the entry
  snap : List (Nat × Int × Nat) := []   -- transaction ↦ (value, version) read at start
  accepts : Nat := 0

def snapOf (st : TxState) (t : Nat) : Option (Int × Nat) := (st.snap.find? (fun e => e.1 == t)).map (·.2)

/-- one event of the schedule; every transaction submits the same nonce `n` -/
def txStep (n : Int) (st : TxState) : Ev → TxState
  | .start t => { st with snap := (t, st.val, st.ver) :: st.snap }
  | .commit t =>
    match snapOf st t with
    | none => st
    | some (v, ver) =>
      if ver ≠ st.ver then st                 -- ErrConflict: refused
      else if n ≤ v then st                  -- ErrInvalidNonce
      else { st with val := n, ver := st.ver + 1, accepts := st.accepts + 1 }

/-- what every schedule keeps true of the snapshots, in both race models below: none is newer than the entry, and one
taken at the entry's current version holds its current value - so a commit that passes the version check compares its
nonce with the committed value -/
def SnapOk (val : Int) (ver : Nat) (snap : List (Nat × Int × Nat)) : Prop :=
  ∀ e ∈ snap, e.2.2 ≤ ver ∧ (e.2.2 = ver → e.2.1 = val)

theorem SnapOk.start {val ver snap} (h : SnapOk val ver snap) (t : Nat) : SnapOk val ver ((t, val, ver) :: snap) := by
  intro e he
  rcases List.mem_cons.1 he with rfl | he
  · exact ⟨Nat.le_refl _, fun _ => rfl⟩
  · exact h e he

/-- a commit bumps the version, so every snapshot taken before it is out of date whatever the new value -/
theorem SnapOk.commit {val ver snap} (h : SnapOk val ver snap) (val' : Int) : SnapOk val' (ver + 1) snap :=
  fun e he => ⟨Nat.le_succ_of_le (h e he).1, fun hv => absurd (h e he).1 (by omega)⟩

/-- the commit rule of both race models: under `SnapOk` a transaction that passes the version check has read the
committed value, so the state is either kept or, only if the committed value is below the nonce, written -/
theorem SnapOk.commit_cases {α : Type} {P : α → Prop} {val ver snap} (h : SnapOk val ver snap) (t : Nat) (n : Int)
    {keep write : α} (hk : P keep) (hw : val < n → P write) :
    P (match (snap.find? (fun e => e.1 == t)).map (·.2) with
       | none => keep
       | some (v, ver') => if ver' ≠ ver then keep else if n ≤ v then keep else write) := by
  split
  · exact hk
  · rename_i v ver' hs
    obtain ⟨e, hf, he⟩ := Option.map_eq_some_iff.1 hs
    obtain ⟨_, hval⟩ := h e (List.mem_of_find?_eq_some hf)
    rw [he] at hval
    by_cases hver : ver' = ver
    · rw [if_neg (fun hne => hne hver), show v = val from hval hver]
      split
      · exact hk
      · exact hw (by omega)
    · rw [if_pos hver]; exact hk

def TxInv (n : Int) (st : TxState) : Prop :=
  (st.accepts = 0 ∨ (st.accepts = 1 ∧ n ≤ st.val)) ∧ SnapOk st.val st.ver st.snap

theorem txInv_step (n : Int) (st : TxState) (ev : Ev) (h : TxInv n st) : TxInv n (txStep n st ev) := by
  obtain ⟨hacc, hsnap⟩ := h
  cases ev with
  | start t => exact ⟨hacc, hsnap.start t⟩
  | commit t =>
    refine hsnap.commit_cases (P := TxInv n) t n ⟨hacc, hsnap⟩ fun hlt => ⟨?_, hsnap.commit n⟩
    -- accepting needs `st.val < n`, impossible after an accept
    rcases hacc with h0 | ⟨_, hle⟩
    · exact .inr ⟨by simp [h0], Int.le_refl _⟩
    · omega

/-- **racing duplicates, optimistic transactions**: any schedule accepts at most one copy -/
theorem racing_duplicates (n : Int) (sched : List Ev) : (sched.foldl (txStep n) {}).accepts ≤ 1 := by
  have : TxInv n (sched.foldl (txStep n) {}) :=
    List.foldlRecOn sched (txStep n) ⟨.inl rfl, fun _ he => nomatch he⟩ fun st h ev _ => txInv_step n st ev h
  rcases this.1 with h | ⟨h, _⟩ <;> omega

/-! #### racing requests with *different* nonces of one identity

Transaction `t` submits the nonce `nonceOf t`.  Whatever the schedule, the committed nonce never decreases and
stays at or above every nonce that was accepted - so a later replay of any accepted request, the highest one
included, is refused (the `rounds-with-regress` count of the `conc nonces` workload). -/

structure TxStateN where
  val : Int := 0
  ver : Nat := 0
  snap : List (Nat × Int × Nat) := []
  accepted : List Int := []

def snapOfN (st : TxStateN) (t : Nat) : Option (Int × Nat) := (st.snap.find? (fun e => e.1 == t)).map (·.2)

def txStepN (nonceOf : Nat → Int) (st : TxStateN) : Ev → TxStateN
  | .start t => { st with snap := (t, st.val, st.ver) :: st.snap }
  | .commit t =>
    match snapOfN st t with
    | none => st
    | some (v, ver) =>
      if ver ≠ st.ver then st
      else if nonceOf t ≤ v then st
      else { st with val := nonceOf t, ver := st.ver + 1, accepted := nonceOf t :: st.accepted }

/-- the committed nonce is at or above the value `v0` it started from and every accepted nonce -/
def TxInvN (v0 : Int) (st : TxStateN) : Prop :=
  v0 ≤ st.val ∧ (∀ a ∈ st.accepted, a ≤ st.val) ∧ SnapOk st.val st.ver st.snap

theorem txInvN_step (nonceOf : Nat → Int) (v0 : Int) (st : TxStateN) (ev : Ev) (h : TxInvN v0 st) :
    TxInvN v0 (txStepN nonceOf st ev) := by
  obtain ⟨h0, hacc, hsnap⟩ := h
  cases ev with
  | start t => exact ⟨h0, hacc, hsnap.start t⟩
  | commit t =>
    -- a write raises the committed value to the nonce it logs
    exact hsnap.commit_cases (P := TxInvN v0) t (nonceOf t) ⟨h0, hacc, hsnap⟩ fun hlt =>
      ⟨Int.le_trans h0 (Int.le_of_lt hlt),
       List.forall_mem_cons.2 ⟨Int.le_refl _, fun a ha => Int.le_trans (hacc a ha) (Int.le_of_lt hlt)⟩, hsnap.commit _⟩

/-- **racing requests of one identity, optimistic transactions**: after any schedule the committed nonce is at or
above every accepted one, and not below where it started -/
theorem racing_distinct_never_regress (nonceOf : Nat → Int) (sched : List Ev) :
    let st := sched.foldl (txStepN nonceOf) {}
    (∀ a ∈ st.accepted, a ≤ st.val) ∧ 0 ≤ st.val := by
  obtain ⟨h0, hacc, _⟩ : TxInvN 0 (sched.foldl (txStepN nonceOf) {}) :=
    List.foldlRecOn sched (txStepN nonceOf) ⟨Int.le_refl _, fun _ ha => (nomatch ha), fun _ he => nomatch he⟩
      fun st h ev _ => txInvN_step nonceOf 0 st ev h
  exact ⟨hacc, h0⟩

/-- hence a replay of any accepted request after the race is refused by the committed table -/
theorem replay_after_race_refused (nonceOf : Nat → Int) (sched : List Ev) (a : Int)
    (ha : a ∈ (sched.foldl (txStepN nonceOf) {}).accepted) :
    a ≤ (sched.foldl (txStepN nonceOf) {}).val :=
  (racing_distinct_never_regress nonceOf sched).1 a ha

/-! ### expiring nonce entries (badger driver)

The badger driver stores each accepted nonce with a time-to-live so that the table does not grow
without bound.  With the entry kept until the nonce itself has turned stale (`nonce + window`), forgetting
it is unobservable: the expiring table gives the same verdicts as a table that never forgets, for every
history, whatever the clock readings. -/

/-- the expiring table holds the same nonces as the never-forgetting one, each kept at least until
the nonce itself is stale -/
def Sim (w : Int) (et : ETable) (mt : AList Int) : Prop :=
  ∀ id, match mt.get id with
    | none => et.get id = none
    | some v => ∃ e, et.get id = some (v, e) ∧ v + w ≤ e

theorem Sim.set {w : Int} {et : ETable} {mt : AList Int} (h : Sim w et mt) (id : String) {n exp : Int}
    (hexp : n + w ≤ exp) : Sim w (et.set id (n, exp)) (mt.set id n) := by
  intro id'
  by_cases e : id = id'
  · subst e; simp only [get_set_eq]; exact ⟨exp, rfl, hexp⟩
  · rw [get_set_ne _ _ e, get_set_ne _ _ e]; exact h id'

/-- one submission: both tables refuse, or both accept and stay related -/
theorem check_sim {w : Int} {et : ETable} {mt : AList Int} (h : Sim w et mt) (id : String) (n now : Int) {exp : Int}
    (hexp : n + w ≤ exp) :
    (echeck w et id n now exp = none ∧ mcheck w mt id n now = none) ∨
    (echeck w et id n now exp = some (et.set id (n, exp)) ∧ mcheck w mt id n now = some (mt.set id n) ∧
      Sim w (et.set id (n, exp)) (mt.set id n)) := by
  have hset := h.set id hexp
  have hid := h id
  unfold echeck mcheck eget
  by_cases hs : n ≤ now - w
  · simp [hs]
  · cases hm : mt.get id with
    | none => rw [hm] at hid; simp [hs, hid, hset]
    | some v =>
      rw [hm] at hid
      obtain ⟨e, he, hle⟩ := hid
      by_cases hnv : n ≤ v
      · -- a live entry: had it expired, `v ≤ now − w < n`
        have hlive : now < e := by omega
        simp [hs, he, hlive, hnv]
      · by_cases hlive : now < e <;> simp [hs, he, hlive, hnv, hset]

/-- **TTL is unobservable**: for every history (any clock readings) in which every saved entry is kept at
least until its nonce is stale, the expiring table returns exactly the verdicts of the table that never
forgets — an expired entry never re-admits a nonce -/
theorem ttl_safe (w : Int) (et : ETable) (mt : AList Int) (xs : List ESub) (h : Sim w et mt)
    (hexp : ∀ x ∈ xs, x.nonce + w ≤ x.exp) :
    (erun w et xs).2 = (mrun w mt xs).2 := by
  induction xs generalizing et mt with
  | nil => rfl
  | cons x xs ih =>
    have hexp' : ∀ y ∈ xs, y.nonce + w ≤ y.exp := fun y hy => hexp y (List.mem_cons_of_mem _ hy)
    rcases check_sim h x.id x.nonce x.now (hexp x List.mem_cons_self) with ⟨he, hm⟩ | ⟨he, hm, h'⟩ <;>
      simp only [erun, mrun, he, hm]
    · rw [ih et mt h hexp']
    · rw [ih _ _ h' hexp']

/-- the never-forgetting table of this section is the store model's nonce table (both drivers' documented
contract) for every positive nonce: same verdict, same table afterwards -/
theorem mcheck_is_store (s : Store) (id : String) (n now : Int) (hn : 0 < n) :
    match mcheck nonceWindow s.nonces id n now, s.checkAndSaveNonce id n now with
    | some t', .ok s' => s'.nonces = t'
    | none, .error _ => True
    | _, _ => False := by
  rw [check_eq]; unfold mcheck tbl
  by_cases hs : n ≤ now - nonceWindow
  · simp [hs]
  · cases hg : s.nonces.get id with
    | none => simp [hs, Int.not_le.2 hn]
    | some v => by_cases hv : n ≤ v <;> simp [hs, hv]

/-- **the time-to-live the badger code asks for keeps the entry at least until the nonce is stale**, whatever the
nonce's date relative to the store's clock and however badger's whole-second rounding falls: the hypothesis of
`ttl_safe` is discharged by the code's own arithmetic -/
theorem badger_entry_outlives_nonce (w nonce now0 now1 : Int) (h : now0 ≤ now1) :
    nonce + w ≤ badgerExp w nonce now0 now1 := by
  -- rounding down to whole seconds loses less than the second of slack that the time-to-live carries
  have hfloor := Int.lt_ediv_add_one_mul_self (now1 + badgerTtl w nonce now0) (show 0 < second by decide)
  have httl : w + second + (nonce - now0) ≤ badgerTtl w nonce now0 := by simp only [badgerTtl]; split <;> omega
  rw [Int.add_mul, Int.one_mul] at hfloor
  unfold badgerExp; omega

/-- without the one-second slack the entry can vanish while the nonce is still fresh (the seeded change
`C05-ttl-noslack`): a replay in that gap is accepted -/
theorem no_slack_counterexample :
    ∃ w nonce now0 now1, now0 ≤ now1 ∧ noSlackExp w nonce now0 now1 < nonce + w := by
  refine ⟨2000000000, 500000000, 500000000, 500000000, by omega, ?_⟩
  decide

theorem sim_empty (w : Int) : Sim w [] [] := by intro id; simp

/-- for every history whose entries carry the expiry the badger code asks for, the badger nonce table gives the
verdicts of the table that never forgets (the memory driver, the contract) -/
theorem badger_nonce_verdicts (w : Int) (xs : List ESub)
    (hexp : ∀ x ∈ xs, ∃ now1, x.now ≤ now1 ∧ x.exp = badgerExp w x.nonce x.now now1) :
    (erun w [] xs).2 = (mrun w [] xs).2 := by
  refine ttl_safe w [] [] xs (sim_empty w) fun x hx => ?_
  obtain ⟨now1, h1, h2⟩ := hexp x hx
  exact h2 ▸ badger_entry_outlives_nonce w x.nonce x.now now1 h1

/-- the pre-repair behaviour (entry expiring `window` after it was *saved*): a future-dated nonce is
accepted a second time once the entry has lapsed — the witness that motivated the repair (DESIGN.md §9 F16) -/
def echeckOld (t : ETable) (id : String) (n now : Int) : Option ETable :=
  echeck nonceWindow t id n now (now + nonceWindow)

theorem old_ttl_counterexample :
    let w := nonceWindow
    ∃ t1, echeckOld [] "a" (w + 100) 0 = some t1 ∧ (echeckOld t1 "a" (w + 100) (w + 50)).isSome = true := by
  refine ⟨_, rfl, ?_⟩
  decide

/-- non-vacuity: a history in which a replay, a decreasing nonce and a stale nonce are all rejected -/
example :
    (runSubs Store.empty [⟨"a", 1000, 1000⟩, ⟨"a", 1000, 2000⟩, ⟨"b", 900, 2000⟩, ⟨"a", 999, 2000⟩,
      ⟨"a", 1001, 2000⟩, ⟨"c", -nonceWindow, 0⟩]).2 = [("a", 1001), ("b", 900), ("a", 1000)] := by decide +kernel

end Vipnode.C05
