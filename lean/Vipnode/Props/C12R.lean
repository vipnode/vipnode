/-
C12 (refinement part) — both drivers' logic, transcribed method by method in `Model/Drivers.lean`, answers and
changes state exactly as the contract model does, on every state reachable by store operations.

* badger: same tables as the contract, different order of reads (`bdg_*_eq`, invariant `BInv`); its
  `CheckAndSaveNonce` is not among the transcribed methods (`Bdg.applyOp` calls the contract's): the expiring nonce
  entries are `Model/NonceTtl.lean`, compared with the table that never forgets in C05 (`ttl_safe`);
* memory: tracked peers inside the node record (`mem_*_eq`, refinement relation `MemR`).

Each driver is a simulation of the contract: a relation that the empty states satisfy, that every call preserves
(`bdg_applyOp_eq` with `bInv_applyOp`, `memR_applyOp`) and under which every query agrees; the statements about
histories are `List.foldl_rel` applied to it.
-/
import Vipnode.Model.Drivers
import Vipnode.Lemmas.AList
import Vipnode.Lemmas.Store
import Vipnode.Props.C12
namespace Vipnode.C12R
open Vipnode Vipnode.AList Vipnode.Store

/-! ### lists and association lists -/

theorem sumInts_append (a b : List Int) : sumInts (a ++ b) = sumInts a + sumInts b := Vipnode.sumInts_append a b

/-- a scan that conses `f x` for the `x` passing `p`, however its step `g` spells the test, is `filter` then `map` -/
theorem foldr_eq_filter_map {α β : Type} (p : α → Bool) (f : α → β) (g : α → List β → List β)
    (hg : ∀ x r, g x r = if p x then f x :: r else r) (l : List α) :
    l.foldr g [] = (l.filter p).map f := by
  induction l with
  | nil => rfl
  | cons x t ih => rw [List.foldr_cons, ih, hg, List.filter_cons]; split <;> rfl

theorem dedup_of_nodup (l : List String) (h : l.Nodup) : dedupStrings l = l := by
  induction l with
  | nil => rfl
  | cons x t ih =>
    have ⟨hx, ht⟩ := List.nodup_cons.mp h
    simp [dedupStrings, hx, ih ht]

theorem toOption_map {ε α β : Type} (x : Except ε α) (f : α → β) : (x.map f).toOption = x.toOption.map f := by
  cases x <;> rfl

/-! ### badger -/

/-- what the badger code relies on when it reads a balance or a peer set before checking the registration:
links, trial balances and peer sets exist only for registered nodes -/
def BInv (s : Store) : Prop :=
  ∀ id, s.nodes.get id = none → s.accounts.get id = none ∧ s.trials.get id = none ∧ s.peers.get id = none

theorem bdg_getNodeBalance_eq (s : Store) (id : String) (h : BInv s) :
    Bdg.getNodeBalance s id = s.getNodeBalance id := by
  unfold Bdg.getNodeBalance Store.getNodeBalance Store.nodeBalance
  cases hn : s.nodes.get id with
  | none => simp [h id hn]
  | some n => cases s.accounts.get id <;> simp only <;> split <;> simp [*]

theorem bdg_addNodeBalance_eq (s : Store) (id : String) (amt : Int) (h : BInv s) :
    Bdg.addNodeBalance s id amt = s.addNodeBalance id amt := by
  unfold Bdg.addNodeBalance Store.addNodeBalance
  cases hn : s.nodes.get id with
  | none => simp [h id hn]
  | some n => cases s.accounts.get id <;> simp only <;> split <;> simp [*]

theorem bdg_getAccountBalance_eq (s : Store) (a : String) : Bdg.getAccountBalance s a = s.getAccountBalance a := by
  unfold Bdg.getAccountBalance Store.getAccountBalance
  cases s.balances.get a <;> rfl

theorem bdg_addAccountBalance_eq (s : Store) (a : String) (amt : Int) :
    Bdg.addAccountBalance s a amt = s.addAccountBalance a amt := by
  unfold Bdg.addAccountBalance Store.addAccountBalance
  cases s.balances.get a <;> rfl

theorem bdg_addAccountNode_eq (s : Store) (a id : String) : Bdg.addAccountNode s a id = s.addAccountNode a id := by
  unfold Bdg.addAccountNode Store.addAccountNode
  cases s.nodes.get id with
  | none => rfl
  | some n => cases s.trials.get id <;> cases s.balances.get a <;> rfl

theorem bdg_isAccountNode_eq (s : Store) (a id : String) : Bdg.isAccountNode s a id = s.isAccountNode a id := by
  unfold Bdg.isAccountNode Store.isAccountNode
  cases s.accounts.get id with
  | none => rfl
  | some a' => by_cases e : a' = a <;> simp [e]

theorem bdg_getAccountNodes_eq (s : Store) (a : String) : Bdg.getAccountNodes s a = s.getAccountNodes a :=
  foldr_eq_filter_map _ _ _ (fun kv r => by unfold bne; cases kv.2 == a <;> rfl) _

theorem bdg_getNode_eq (s : Store) (id : String) : Bdg.getNode s id = s.getNode id := by
  unfold Bdg.getNode Store.getNode
  cases s.nodes.get id <;> rfl

theorem bdg_setNode_eq (s : Store) (n : Node) : Bdg.setNode s n = s.setNode n := rfl

theorem bdg_nodePeers_eq (s : Store) (id : String) (h : BInv s) : Bdg.nodePeers s id = s.nodePeers id := by
  unfold Bdg.nodePeers Store.nodePeers Store.trackedPeers
  cases hn : s.nodes.get id with
  | none => simp [h id hn]
  | some n => cases s.peers.get id <;> rfl

theorem bdg_recordPeers_eq (nodes : AList Node) (tracked : AList Int) (ps : List String) :
    Bdg.recordPeers nodes tracked ps = refreshPeers nodes tracked ps := by
  induction ps generalizing tracked with
  | nil => rfl
  | cons p ps ih => unfold Bdg.recordPeers refreshPeers; cases nodes.get p <;> exact ih _

theorem inactive_filter_eq (d : Int) :
    (fun (kv : String × Int) => !decide (d < kv.2)) = (fun kv => decide (kv.2 ≤ d)) := by
  funext kv; simp only [← Int.not_lt, decide_not]

theorem bdg_updateNodePeers_eq (s : Store) (id : String) (r : List String) (b : Nat) (now : Int) :
    Bdg.updateNodePeers s id r b now = s.updateNodePeers id r b now := by
  unfold Bdg.updateNodePeers Store.updateNodePeers
  cases s.nodes.get id with
  | none => rfl
  | some n => cases s.peers.get id <;> simp only [bdg_recordPeers_eq, inactive_filter_eq, Option.getD]

/-! #### statistics: the `CountNode` / `CountBalance` folds are the true counts and sums -/

/-- `CountNode` without branches: every counter moves by 0 or 1, the block by `max`; the folds below then need no
case split -/
theorem countNode_eq (now : Int) (st : Stats) (n : Node) :
    countNode now st n =
      { st with
        activeHosts := st.activeHosts + (if n.isHost && decide (now - W < n.lastSeen) then 1 else 0)
        totalHosts := st.totalHosts + (if n.isHost then 1 else 0)
        activeClients := st.activeClients + (if !n.isHost && decide (now - W < n.lastSeen) then 1 else 0)
        totalClients := st.totalClients + (if !n.isHost then 1 else 0)
        latestBlock := max st.latestBlock n.block } := by
  have hb : ∀ st' : Stats, (if n.block > st'.latestBlock then { st' with latestBlock := n.block } else st') =
      { st' with latestBlock := max st'.latestBlock n.block } := by
    intro st'; split
    · next h => rw [Nat.max_eq_right (Nat.le_of_lt h)]
    · next h => rw [Nat.max_eq_left (Nat.le_of_not_lt h)]
  unfold countNode
  rw [hb]
  cases n.isHost <;> cases decide (now - W < n.lastSeen) <;> rfl

theorem countNode_fold (now : Int) (ns : List Node) (st : Stats) :
    ns.foldl (countNode now) st =
      { st with
        activeHosts := st.activeHosts + (ns.filter (fun n => n.isHost && decide (now - W < n.lastSeen))).length
        totalHosts := st.totalHosts + (ns.filter (·.isHost)).length
        activeClients := st.activeClients + (ns.filter (fun n => !n.isHost && decide (now - W < n.lastSeen))).length
        totalClients := st.totalClients + (ns.filter (fun n => !n.isHost)).length
        latestBlock := ns.foldl (fun m n => max m n.block) st.latestBlock } := by
  induction ns generalizing st with
  | nil => rfl
  | cons n t ih =>
    simp only [List.foldl_cons, ih, countNode_eq, ← List.countP_eq_length_filter, List.countP_cons, Nat.add_assoc,
      Nat.add_comm (List.countP _ t)]

theorem countBalance_fold (bs : List Bal) (st : Stats) :
    bs.foldl countBalance st =
      { st with
        totalCredit := st.totalCredit + sumInts (bs.map (·.credit))
        totalDeposit := st.totalDeposit + sumInts (bs.map (·.deposit))
        trialBalances := st.trialBalances + (bs.filter (fun b => b.account == "")).length } := by
  induction bs generalizing st with
  | nil => simp [sumInts]
  | cons b t ih =>
    have : countBalance st b =
        { st with
          totalCredit := st.totalCredit + b.credit
          totalDeposit := st.totalDeposit + b.deposit
          trialBalances := st.trialBalances + (if b.account == "" then 1 else 0) } := by
      unfold countBalance; split <;> rfl
    simp only [List.foldl_cons, ih, this, ← List.countP_eq_length_filter, List.countP_cons, List.map_cons, sumInts,
      List.foldr_cons, Int.add_assoc, Nat.add_assoc, Nat.add_comm (List.countP _ t)]

theorem bdg_stats_eq (s : Store) (now : Int) : Bdg.stats s now = s.stats now := by
  unfold Bdg.stats Store.stats
  rw [countBalance_fold, countBalance_fold, countNode_fold]
  simp only [ledgerSum, creditSum, depositSum, List.filter_append, List.length_append, Nat.zero_add, Int.zero_add]

/-! #### the invariant holds in every reachable state, so the badger code *is* the contract -/

theorem bInv_empty : BInv Store.empty := fun _ _ => ⟨rfl, rfl, rfl⟩

theorem bInv_applyOp (s : Store) (op : Op) (h : BInv s) : BInv (applyOp s op) := by
  -- an accepted call binds `accounts`, `trials`, `peers` only at a registered id, so never at an unregistered `i`
  refine applyOp_cases h ?setNode ?unp ?credit ?addAccountBalance ?link ?nonce op
  case setNode => exact fun n _ i hi => h i (get_set_eq_none.1 hi).2
  case unp =>
    intro id n r b now _ i hi
    obtain ⟨e, hi⟩ := get_set_eq_none.1 hi
    obtain ⟨ha, ht, hp⟩ := h i hi
    exact ⟨ha, ht, get_set_eq_none.2 ⟨e, hp⟩⟩
  case credit =>
    intro id amt hn i
    unfold credit; split
    · exact h i
    · intro hi
      obtain ⟨ha, ht, hp⟩ := h i hi
      exact ⟨ha, get_set_eq_none.2 ⟨fun e => hn (e ▸ hi), ht⟩, hp⟩
  case addAccountBalance => exact fun _ _ => h
  case link =>
    intro a id hn i hi
    obtain ⟨ha, ht, hp⟩ := h i hi
    exact ⟨get_set_eq_none.2 ⟨fun e => hn (e ▸ hi), ha⟩, get_del_none _ _ _ ht, hp⟩
  case nonce => exact fun _ _ => h

/-- one call through the badger code changes the state exactly as the contract prescribes -/
theorem bdg_applyOp_eq (s : Store) (op : Op) (h : BInv s) : Bdg.applyOp s op = applyOp s op := by
  cases op with
  | setNode n => rfl
  | unp id r b now => simp only [Bdg.applyOp, applyOp, bdg_updateNodePeers_eq]; rfl
  | addNodeBalance id amt => simp only [Bdg.applyOp, applyOp, bdg_addNodeBalance_eq s id amt h]; rfl
  | addAccountBalance a amt => simp only [Bdg.applyOp, applyOp, bdg_addAccountBalance_eq]
  | addAccountNode a id => simp only [Bdg.applyOp, applyOp, bdg_addAccountNode_eq]; rfl
  | nonce id n now => rfl

/-- the badger code run beside the contract: equal states, and the invariant -/
theorem badger_sim (ops : List Op) : Bdg.run Store.empty ops = run Store.empty ops ∧ BInv (run Store.empty ops) :=
  List.foldl_rel (r := fun b s => b = s ∧ BInv s) ⟨rfl, bInv_empty⟩
    fun op _ b s h => by rw [h.1]; exact ⟨bdg_applyOp_eq s op h.2, bInv_applyOp s op h.2⟩

/-- **the badger driver's logic refines the contract**: after any history of store calls from the empty database
the badger code has built exactly the contract's state ... -/
theorem badger_run_eq (ops : List Op) : Bdg.run Store.empty ops = run Store.empty ops := (badger_sim ops).1

/-- ... and answers every query as the contract does -/
theorem badger_queries_eq (ops : List Op) (id a : String) (now : Int) :
    let b := Bdg.run Store.empty ops
    let s := run Store.empty ops
    Bdg.getNode b id = s.getNode id ∧ Bdg.getNodeBalance b id = s.getNodeBalance id ∧
    Bdg.getAccountBalance b a = s.getAccountBalance a ∧ Bdg.isAccountNode b a id = s.isAccountNode a id ∧
    Bdg.getAccountNodes b a = s.getAccountNodes a ∧ Bdg.nodePeers b id = s.nodePeers id ∧
    Bdg.stats b now = s.stats now := by
  simp only [badger_run_eq]
  have h := (badger_sim ops).2
  exact ⟨bdg_getNode_eq _ _, bdg_getNodeBalance_eq _ _ h, bdg_getAccountBalance_eq _ _, bdg_isAccountNode_eq _ _ _,
    bdg_getAccountNodes_eq _ _, bdg_nodePeers_eq _ _ h, bdg_stats_eq _ _⟩

/-! ### memory -/

/-- the memory driver's state represents a contract state: same tables, the tracked peers of a node stored inside
its record -/
def MemR (m : Mem) (s : Store) : Prop :=
  s.nodes = m.nodes.map (fun kv => (kv.1, kv.2.1)) ∧
  (∀ id, s.trackedPeers id = match m.nodes.get id with | some mn => mn.2 | none => []) ∧
  s.accounts = m.accounts ∧ s.balances = m.balances ∧ s.trials = m.trials ∧ s.nonces = m.nonces

theorem balOf_eq (l : AList Bal) (k : String) : Mem.balOf l k = (l.get k).getD {} := by
  unfold Mem.balOf; cases l.get k <;> rfl

theorem memR_empty : MemR {} Store.empty := ⟨rfl, fun _ => rfl, rfl, rfl, rfl, rfl⟩

namespace MemR
variable {m : Mem} {s : Store} (h : MemR m s)
include h

theorem nodes : s.nodes = m.nodes.map (fun kv => (kv.1, kv.2.1)) := h.1
theorem accounts : s.accounts = m.accounts := h.2.2.1
theorem balances : s.balances = m.balances := h.2.2.2.1
theorem trials : s.trials = m.trials := h.2.2.2.2.1

theorem nodes_get (id : String) : s.nodes.get id = (m.nodes.get id).map (·.1) := by
  rw [h.nodes]; exact get_mapv _ _ _

theorem tracked {id : String} {mn : Node × AList Int} (hn : m.nodes.get id = some mn) : s.trackedPeers id = mn.2 := by
  rw [h.2.1, hn]

end MemR

theorem mem_getNode_eq {m : Mem} {s : Store} (h : MemR m s) (id : String) : Mem.getNode m id = s.getNode id := by
  unfold Mem.getNode Store.getNode
  rw [h.nodes_get]
  cases m.nodes.get id <;> rfl

theorem mem_getNodeBalance_eq {m : Mem} {s : Store} (h : MemR m s) (id : String) :
    Mem.getNodeBalance m id = s.getNodeBalance id := by
  unfold Mem.getNodeBalance Store.getNodeBalance Store.nodeBalance
  rw [h.nodes_get, h.accounts, h.balances, h.trials]
  cases m.nodes.get id with
  | none => rfl
  | some mn => cases m.accounts.get id <;> simp [balOf_eq]

theorem mem_getAccountBalance_eq {m : Mem} {s : Store} (h : MemR m s) (a : String) :
    Mem.getAccountBalance m a = s.getAccountBalance a := by
  unfold Mem.getAccountBalance Store.getAccountBalance
  rw [h.balances, balOf_eq]

theorem mem_isAccountNode_eq {m : Mem} {s : Store} (h : MemR m s) (a id : String) :
    Mem.isAccountNode m a id = s.isAccountNode a id := by
  rw [← bdg_isAccountNode_eq]
  unfold Mem.isAccountNode Bdg.isAccountNode
  rw [h.accounts]

theorem mem_getAccountNodes_eq {m : Mem} {s : Store} (h : MemR m s) (a : String) :
    Mem.getAccountNodes m a = s.getAccountNodes a := by
  unfold Store.getAccountNodes
  rw [h.accounts]
  exact foldr_eq_filter_map _ _ _ (fun kv r => by rw [BEq.comm]) _

theorem mem_nodePeers_eq {m : Mem} {s : Store} (h : MemR m s) (id : String) : Mem.nodePeers m id = s.nodePeers id := by
  unfold Mem.nodePeers Store.nodePeers
  simp only [h.nodes_get]
  cases hn : m.nodes.get id with
  | none => rfl
  | some mn => rw [h.tracked hn]; rfl

theorem mem_stats_eq {m : Mem} {s : Store} (h : MemR m s) (now : Int) : Mem.stats m now = s.stats now := by
  rw [← bdg_stats_eq]
  unfold Mem.stats Bdg.stats
  rw [h.nodes, h.balances, h.trials]
  simp only [AList.vals, List.map_map]; rfl

theorem mem_recordPeers_eq (nodes : AList (Node × AList Int)) (tracked : AList Int) (ps : List String) :
    Mem.recordPeers nodes tracked ps = refreshPeers (nodes.map (fun kv => (kv.1, kv.2.1))) tracked ps := by
  induction ps generalizing tracked with
  | nil => rfl
  | cons p ps ih =>
    unfold Mem.recordPeers refreshPeers
    rw [get_mapv]
    cases nodes.get p <;> exact ih _

theorem mem_checkAndSaveNonce_eq (m : Mem) (id : String) (n now : Int) :
    Mem.checkAndSaveNonce m id n now = if n ≤ now - nonceWindow ∨ n ≤ (m.nonces.get id).getD 0 then .error .invalidNonce
      else .ok { m with nonces := m.nonces.set id n } := by
  unfold Mem.checkAndSaveNonce
  by_cases h1 : n ≤ now - nonceWindow
  · simp only [h1, if_true, true_or]
  · cases m.nonces.get id <;> simp only [h1, if_false, false_or, Option.getD, ge_iff_le]

/-- one call through the memory code keeps the two states related -/
theorem memR_applyOp {m : Mem} {s : Store} (h : MemR m s) (op : Op) : MemR (Mem.applyOp m op) (applyOp s op) := by
  -- with the four shared tables identified, only the node and peer tables need an argument
  obtain ⟨sn, sp, sa, sb, st, sno⟩ := s
  obtain ⟨rfl, hp, rfl, rfl, rfl, rfl⟩ := h
  cases op with
  | setNode n =>
    simp only [applyOp_setNode, Mem.applyOp, Mem.setNode]
    by_cases he : n.id = "" <;> simp only [he, if_true, if_false]
    · exact ⟨rfl, hp, rfl, rfl, rfl, rfl⟩
    · refine ⟨(set_mapv m.nodes (·.1) n.id (n, _)).symm, fun id' => ?_, rfl, rfl, rfl, rfl⟩
      by_cases e : n.id = id'
      · subst e; rw [get_set_eq]; exact hp _
      · rw [get_set_ne _ _ e]; exact hp _
  | unp id r b now =>
    have ht := hp id
    simp only [applyOp_unp, Mem.applyOp, Mem.updateNodePeers, get_mapv, trackedPeers] at ht ⊢
    cases hn : m.nodes.get id with
    | none => exact ⟨rfl, hp, rfl, rfl, rfl, rfl⟩
    | some mn =>
      rw [hn] at ht
      simp only [Option.map_some, checkIn, ht, mem_recordPeers_eq, set_set,
        set_mapv (f := fun x : Node × AList Int => x.1)]
      refine ⟨(set_mapv m.nodes (·.1) id (_, _)).symm, fun id' => ?_, rfl, rfl, rfl, rfl⟩
      by_cases e : id = id'
      · subst e; simp only [trackedPeers, get_set_eq]; rfl
      · simp only [trackedPeers, get_set_ne _ _ e]; exact hp _
  | addNodeBalance id amt =>
    simp only [applyOp_addNodeBalance, Mem.applyOp, Mem.addNodeBalance, get_mapv]
    cases m.nodes.get id with
    | none => exact ⟨rfl, hp, rfl, rfl, rfl, rfl⟩
    | some mn =>
      simp only [credit, balOf_eq]
      cases m.accounts.get id <;> exact ⟨rfl, hp, rfl, rfl, rfl, rfl⟩
  | addAccountBalance a amt =>
    refine ⟨rfl, hp, rfl, ?_, rfl, rfl⟩
    simp only [applyOp, Mem.applyOp, Mem.addAccountBalance, Store.addAccountBalance, balOf_eq]
  | addAccountNode a id =>
    simp only [applyOp_addAccountNode, link, Mem.applyOp, Mem.addAccountNode, get_mapv, balOf_eq]
    cases m.nodes.get id <;> exact ⟨rfl, hp, rfl, rfl, rfl, rfl⟩
  | nonce id n now =>
    simp only [applyOp_nonce, Mem.applyOp, mem_checkAndSaveNonce_eq]
    by_cases hc : n ≤ now - nonceWindow ∨ n ≤ (m.nonces.get id).getD 0 <;> simp only [hc, if_true, if_false] <;>
      exact ⟨rfl, hp, rfl, rfl, rfl, rfl⟩

/-- the keep-alive's answer: the same refusal, or the same peers declared inactive -/
theorem mem_updateNodePeers_eq {m : Mem} {s : Store} (h : MemR m s) (id : String) (r : List String) (b : Nat)
    (now : Int) :
    (Mem.updateNodePeers m id r b now).map (·.2) = (s.updateNodePeers id r b now).map (·.2) := by
  unfold Mem.updateNodePeers Store.updateNodePeers
  rw [h.nodes_get]
  cases hn : m.nodes.get id with
  | none => rfl
  | some mn =>
    have ht : (s.peers.get id).getD [] = mn.2 := h.tracked hn
    simp only [Option.map_some, ht, mem_recordPeers_eq, set_mapv (f := fun x : Node × AList Int => x.1), ← h.nodes,
      inactive_filter_eq, Except.map]

/-- **the memory driver's logic refines the contract**: after any history its state represents the contract's -/
theorem memory_run_related (ops : List Op) : MemR (Mem.run {} ops) (run Store.empty ops) :=
  List.foldl_rel memR_empty fun op _ _ _ h => memR_applyOp h op

/-- **swapping one driver for the other never changes an answer**: after the same history of store calls, every
query is answered identically by the memory code and by the badger code (and as the contract prescribes) -/
theorem drivers_agree (ops : List Op) (id a : String) (now : Int) :
    let m := Mem.run {} ops
    let b := Bdg.run Store.empty ops
    Mem.getNode m id = Bdg.getNode b id ∧ Mem.getNodeBalance m id = Bdg.getNodeBalance b id ∧
    Mem.getAccountBalance m a = Bdg.getAccountBalance b a ∧ Mem.isAccountNode m a id = Bdg.isAccountNode b a id ∧
    Mem.getAccountNodes m a = Bdg.getAccountNodes b a ∧ Mem.nodePeers m id = Bdg.nodePeers b id ∧
    Mem.stats m now = Bdg.stats b now := by
  have hb := badger_queries_eq ops id a now
  have hm := memory_run_related ops
  simp only at hb ⊢
  obtain ⟨b1, b2, b3, b4, b5, b6, b7⟩ := hb
  exact ⟨(mem_getNode_eq hm id).trans b1.symm, (mem_getNodeBalance_eq hm id).trans b2.symm,
    (mem_getAccountBalance_eq hm a).trans b3.symm, (mem_isAccountNode_eq hm a id).trans b4.symm,
    (mem_getAccountNodes_eq hm a).trans b5.symm, (mem_nodePeers_eq hm id).trans b6.symm,
    (mem_stats_eq hm now).trans b7.symm⟩

/-- the keep-alive's answer (the peers declared inactive) is the same through both drivers after any history -/
theorem drivers_agree_keepalive (ops : List Op) (id : String) (r : List String) (blk : Nat) (now : Int) :
    ((Mem.updateNodePeers (Mem.run {} ops) id r blk now).toOption.map (·.2)) =
    ((Bdg.updateNodePeers (Bdg.run Store.empty ops) id r blk now).toOption.map (·.2)) := by
  rw [badger_run_eq, bdg_updateNodePeers_eq, ← toOption_map, ← toOption_map,
    mem_updateNodePeers_eq (memory_run_related ops)]

/-- non-vacuity: a history exercising registration, keep-alive with a stale and a live peer, trial credit, linking
and wallet credit gives the same (non-trivial) answers through all three -/
def sampleOps : List Op := [.setNode { id := "h", isHost := true, lastSeen := 5 }, .setNode { id := "c", lastSeen := 500 },
  .addNodeBalance "c" (-7), .unp "c" ["h", "zz"] 9 (W + 1), .addAccountNode "X" "c", .addAccountBalance "X" 100]

def showBal : Except StoreErr Bal → String × Int
  | .ok b => (b.account, b.credit)
  | .error _ => ("error", 0)

example : showBal (Mem.getNodeBalance (Mem.run {} sampleOps) "c") = ("X", 93) ∧
    showBal (Bdg.getNodeBalance (Bdg.run Store.empty sampleOps) "c") = ("X", 93) ∧
    showBal ((run Store.empty sampleOps).getNodeBalance "c") = ("X", 93) ∧
    ((Mem.updateNodePeers (Mem.run {} sampleOps) "c" [] 1 (2 * W + 2)).toOption.map (·.2)) = some ["h"] := by decide +kernel

/-! ### `ActiveHosts`: both drivers' selection loops meet the contract predicate -/

theorem take_expected {α : Type} (l : List α) (limit : Int) :
    l.take (expectedHostCount limit l.length) = if limit ≤ 0 then l else l.take limit.toNat := by
  unfold expectedHostCount; split
  · exact List.take_length
  · exact List.take_eq_take_min.symm

/-- what both drivers return, the first `limit` records (all of them for a limit ≤ 0) of some arrangement of the
eligible hosts, is a valid choice when the node ids are distinct -/
theorem valid_of_take (s : Store) (kind : String) (limit now : Int) (l : List Node)
    (hperm : l.Perm (s.eligibleHosts kind now)) (hids : (s.nodes.vals.map (·.id)).Nodup) :
    s.validHostChoice kind limit now ((if limit ≤ 0 then l else l.take limit.toNat).map (·.id)) = true := by
  have hnd : (l.map (·.id)).Nodup := ((hperm.map _).nodup_iff).2 (hids.sublist (List.filter_sublist.map _))
  have hsub : ((l.take (expectedHostCount limit l.length)).map (·.id)).Sublist (l.map (·.id)) :=
    (List.take_sublist _ _).map _
  simp only [← take_expected, validHostChoice, Bool.and_eq_true, List.all_eq_true, List.contains_iff_mem, beq_iff_eq,
    dedup_of_nodup _ (hnd.sublist hsub), List.length_map, List.length_take, ← hperm.length_eq]
  refine ⟨⟨fun c hc => ((hperm.map _).mem_iff).1 (hsub.subset hc), trivial⟩, Nat.min_eq_left ?_⟩
  unfold expectedHostCount; split
  · exact Nat.le_refl _
  · exact Nat.min_le_right _ _

/-- one step of the memory driver's countdown (`limit -= 1; if limit == 0 { break }`): from a limit ≤ 0 it never
reaches 0, from a positive one it reaches 0 after `limit` records -/
theorem take_limit_cons {α : Type} (x : α) (l : List α) (limit : Int) :
    (if limit ≤ 0 then x :: l else (x :: l).take limit.toNat) =
      x :: (if limit - 1 = 0 then [] else if limit - 1 ≤ 0 then l else l.take (limit - 1).toNat) := by
  by_cases h0 : limit ≤ 0
  · have h := Int.sub_one_lt_of_le h0
    rw [if_pos h0, if_neg (Int.ne_of_lt h), if_pos (Int.le_of_lt h)]
  · obtain ⟨k, rfl⟩ := Int.eq_succ_of_zero_lt (Int.not_le.1 h0)
    rw [if_neg h0, Int.add_sub_cancel, Int.toNat_natCast_add_one, Int.toNat_natCast, List.take_succ_cons]
    cases k with
    | zero => rfl
    | succ k =>
      have h := Int.natCast_succ_pos k
      rw [if_neg (Int.ne_of_gt h), if_neg (Int.not_le.2 h)]

theorem mem_activeHosts_eq (kind : String) (now : Int) (it : List Node) (limit : Int) :
    Mem.activeHosts kind now it limit =
      (if limit ≤ 0 then it.filter (isActiveHost kind now) else (it.filter (isActiveHost kind now)).take limit.toNat) := by
  induction it generalizing limit with
  | nil => rw [List.filter_nil, List.take_nil, ite_self]; rfl
  | cons n t ih =>
    -- `Mem.activeHosts` on `n :: t` is by `rfl` its `if` on `n`; `take_limit_cons` and `ih` backwards give the right
    -- side that form
    rw [List.filter_cons]
    by_cases hn : isActiveHost kind now n = true
    · rw [if_pos hn, take_limit_cons, ← ih]; exact if_pos hn
    · rw [if_neg hn, ← ih]; exact if_neg hn

/-- the badger driver returns the eligible records unshuffled when the limit does not bite, else the first `limit` of
the shuffle -/
theorem bdg_activeHosts_eq (kind : String) (now : Int) (it : List Node) (limit : Int)
    (shuffle : List Node → List Node) (hsh : ∀ l, (shuffle l).Perm l) :
    ∃ l, l.Perm (it.filter (isActiveHost kind now)) ∧
      Bdg.activeHosts it shuffle kind limit now = if limit ≤ 0 then l else l.take limit.toNat := by
  unfold Bdg.activeHosts
  by_cases h0 : limit ≤ 0
  · exact ⟨_, .refl _, by rw [if_pos (.inl h0), if_pos h0]⟩
  · by_cases h1 : ((it.filter (isActiveHost kind now)).length : Int) < limit
    · have hl := (Int.le_toNat (Int.le_of_not_le h0)).2 (Int.le_of_lt h1)
      exact ⟨_, .refl _, by rw [if_pos (.inr h1), if_neg h0, List.take_of_length_le hl]⟩
    · exact ⟨_, hsh _, by rw [if_neg (not_or.2 ⟨h0, h1⟩), if_neg h0]⟩

section
variable (s : Store) (kind : String) (limit now : Int) (it : List Node) (hperm : it.Perm s.nodes.vals)
  (hids : (s.nodes.vals.map (·.id)).Nodup)
include hperm hids

/-- the memory driver's loop: for every order in which the map yields the records -/
theorem mem_activeHosts_valid :
    s.validHostChoice kind limit now ((Mem.activeHosts kind now it limit).map (·.id)) = true := by
  rw [mem_activeHosts_eq]; exact valid_of_take s kind limit now _ (hperm.filter _) hids

/-- the badger driver's filter-then-shuffle: for every iteration order and every shuffle that permutes -/
theorem bdg_activeHosts_valid (shuffle : List Node → List Node) (hsh : ∀ l, (shuffle l).Perm l) :
    s.validHostChoice kind limit now ((Bdg.activeHosts it shuffle kind limit now).map (·.id)) = true := by
  obtain ⟨l, hl, e⟩ := bdg_activeHosts_eq kind now it limit shuffle hsh
  rw [e]; exact valid_of_take s kind limit now l (hl.trans (hperm.filter _)) hids
end

/-! #### on every reachable state the node ids are distinct, so the hypotheses above hold -/

theorem keysMatch_reachable (ops : List Op) : KeysMatch (run Store.empty ops) :=
  List.foldlRecOn ops applyOp keysMatch_empty fun s h op _ => keysMatch_applyOp s op h

theorem reachable_ids_nodup (ops : List Op) : ((run Store.empty ops).nodes.vals.map (·.id)).Nodup := by
  have hw := (C12.wf_reachable ops).1
  -- every record is stored under its own id, so the ids are the keys, which are distinct
  have hk : ∀ kv ∈ (run Store.empty ops).nodes, kv.2.id = kv.1 := fun kv hm =>
    keysMatch_reachable ops kv.1 kv.2 (get_of_mem _ hw kv.1 kv.2 hm)
  exact ((List.map_map ..).trans (List.map_congr_left hk)) ▸ hw

/-- **both drivers' host selection meets the contract after any history**, for every map-iteration order and every
shuffle -/
theorem drivers_activeHosts_valid (ops : List Op) (kind : String) (limit now : Int) (it : List Node)
    (shuffle : List Node → List Node) (hsh : ∀ l, (shuffle l).Perm l)
    (hperm : it.Perm (run Store.empty ops).nodes.vals) :
    let s := run Store.empty ops
    s.validHostChoice kind limit now ((Mem.activeHosts kind now it limit).map (·.id)) = true ∧
    s.validHostChoice kind limit now ((Bdg.activeHosts it shuffle kind limit now).map (·.id)) = true :=
  ⟨mem_activeHosts_valid _ kind limit now it hperm (reachable_ids_nodup ops),
   bdg_activeHosts_valid _ kind limit now it hperm (reachable_ids_nodup ops) shuffle hsh⟩

end Vipnode.C12R
