/-
C12 — Both storage drivers implement the documented store contract.

`Model/Store.lean` is the executable reference of the contract documented in
`pool/store/store.go`; both drivers are compared with it, op by op, by the
correspondence streams `store-memory` and `store-badger` (so a driver that
deviates from the other deviates from the model).  The theorems below are the
contract clauses the property names, proved of that reference for every state
and every argument.
-/
import Vipnode.Lemmas.Store
namespace Vipnode.C12
open Vipnode Vipnode.Store Vipnode.AList

/-! ### unregistered nodes are errors -/

theorem unregistered_is_error (s : Store) (id : String) (h : s.nodes.get id = none) :
    s.getNode id = .error .unregistered ∧
    s.getNodeBalance id = .error .unregistered ∧
    (∀ amt, s.addNodeBalance id amt = .error .unregistered) ∧
    (∀ a, s.addAccountNode a id = .error .unregistered) ∧
    (∀ r b now, s.updateNodePeers id r b now = .error .unregistered) ∧
    s.nodePeers id = .error .unregistered := by
  simp [getNode, getNodeBalance, addNodeBalance, addAccountNode, updateNodePeers, nodePeers, h]

theorem registered_is_ok (s : Store) (id : String) (n : Node) (h : s.nodes.get id = some n) :
    s.getNode id = .ok n ∧ (∃ b, s.getNodeBalance id = .ok b) ∧
    (∀ amt, ∃ s', s.addNodeBalance id amt = .ok s') ∧ (∀ a, ∃ s', s.addAccountNode a id = .ok s') := by
  refine ⟨by simp [getNode, h], ⟨s.nodeBalance id, by simp [getNodeBalance, h]⟩, ?_, ?_⟩
  · intro amt; exact ⟨_, addNodeBalance_ok_iff.2 ⟨by simp [h], rfl⟩⟩
  · intro a; exact ⟨_, addAccountNode_ok_iff.2 ⟨by simp [h], rfl⟩⟩

theorem setNode_then_get (s s' : Store) (n : Node) (h : s.setNode n = .ok s') : s'.getNode n.id = .ok n := by
  obtain ⟨-, rfl⟩ := setNode_ok_iff.1 h
  simp [getNode, get_set_eq]

theorem setNode_empty_id_refused (s : Store) (n : Node) (h : n.id = "") : s.setNode n = .error .malformed := by
  simp [setNode, h]

/-- re-registering a node touches neither peer sets, links nor balances -/
theorem setNode_frame (s s' : Store) (n : Node) (h : s.setNode n = .ok s') :
    s'.peers = s.peers ∧ s'.accounts = s.accounts ∧ s'.balances = s.balances ∧ s'.trials = s.trials ∧ s'.nonces = s.nonces := by
  obtain ⟨-, rfl⟩ := setNode_ok_iff.1 h; simp

/-! ### balances follow the wallet once linked -/

theorem linked_balance_follows_wallet (s s' : Store) (a id : String) (h : s.addAccountNode a id = .ok s') :
    s'.nodeBalance id = s'.getAccountBalance a ∧ s'.isAccountNode a id = .ok () ∧
    (s'.getAccountBalance a).account = a := by
  obtain ⟨-, rfl⟩ := addAccountNode_ok_iff.1 h
  simp [link, nodeBalance, getAccountBalance, isAccountNode, get_set_eq]

/-- the trial credit is migrated: the wallet gains exactly the trial credit, the
ledger total is unchanged, and (keys being distinct) no trial entry is left -/
theorem trial_migrated_exactly_once (s s' : Store) (a id : String) (h : s.addAccountNode a id = .ok s') :
    (s'.getAccountBalance a).credit = (s.getAccountBalance a).credit + ((s.trials.get id).getD {}).credit ∧
    ledgerSum s' = ledgerSum s ∧
    (NoDupKeys s.trials → s'.trials.get id = none) := by
  obtain ⟨-, rfl⟩ := addAccountNode_ok_iff.1 h
  exact ⟨by simp [link, getAccountBalance, get_set_eq], ledger_link s a id, get_del_self _ _⟩

/-- linking again (second migration) moves nothing: the trial is gone -/
theorem second_link_moves_nothing (s s' s'' : Store) (a id : String) (hn : NoDupKeys s.trials)
    (h : s.addAccountNode a id = .ok s') (h2 : s'.addAccountNode a id = .ok s'') :
    (s''.getAccountBalance a).credit = (s'.getAccountBalance a).credit := by
  obtain ⟨-, -, hgone⟩ := trial_migrated_exactly_once s s' a id h
  obtain ⟨hcredit, -, -⟩ := trial_migrated_exactly_once s' s'' a id h2
  rw [hcredit, hgone hn]; exact Int.add_zero _

/-- every node linked to a wallet spends from the same balance -/
theorem wallet_shared_by_all_its_nodes (s : Store) (a id₁ id₂ : String)
    (h₁ : s.accounts.get id₁ = some a) (h₂ : s.accounts.get id₂ = some a) :
    s.nodeBalance id₁ = s.nodeBalance id₂ ∧ s.nodeBalance id₁ = s.getAccountBalance a := by
  simp [nodeBalance, getAccountBalance, h₁, h₂]

/-- crediting a linked node credits its wallet, by exactly the amount -/
theorem addNodeBalance_linked (s s' : Store) (a id : String) (amt : Int) (hl : s.accounts.get id = some a)
    (h : s.addNodeBalance id amt = .ok s') :
    (s'.getAccountBalance a).credit = (s.getAccountBalance a).credit + amt ∧ s'.trials = s.trials := by
  obtain ⟨-, rfl⟩ := addNodeBalance_ok_iff.1 h
  simp [credit, hl, getAccountBalance, get_set_eq]

/-- crediting an unlinked node credits its trial balance -/
theorem addNodeBalance_trial (s s' : Store) (id : String) (amt : Int) (hl : s.accounts.get id = none)
    (h : s.addNodeBalance id amt = .ok s') :
    (s'.nodeBalance id).credit = (s.nodeBalance id).credit + amt ∧ s'.balances = s.balances := by
  obtain ⟨-, rfl⟩ := addNodeBalance_ok_iff.1 h
  simp [credit, nodeBalance, hl, get_set_eq]

/-- other wallets are untouched by a balance change -/
theorem addAccountBalance_frame (s : Store) (a a' : String) (amt : Int) (h : a ≠ a') :
    (s.addAccountBalance a amt).getAccountBalance a' = s.getAccountBalance a' := by
  simp [addAccountBalance, getAccountBalance, get_set_ne _ _ h]

theorem addAccountBalance_exact (s : Store) (a : String) (amt : Int) :
    ((s.addAccountBalance a amt).getAccountBalance a).credit = (s.getAccountBalance a).credit + amt ∧
    ((s.addAccountBalance a amt).getAccountBalance a).account = a := by
  simp [addAccountBalance, getAccountBalance, get_set_eq]

/-! ### active-host queries honour host flag, kind, recency and limit -/

theorem mem_eligible (s : Store) (kind : String) (now : Int) (n : Node) (h : n ∈ s.eligibleHosts kind now) :
    n.isHost = true ∧ (kind = "" ∨ n.kind = kind) ∧ now - W < n.lastSeen ∧ n ∈ s.nodes.vals := by
  simp only [eligibleHosts, List.mem_filter, isActiveHost, Bool.and_eq_true, Bool.or_eq_true, beq_iff_eq,
    decide_eq_true_eq] at h
  obtain ⟨hmem, ⟨hhost, hkind⟩, hseen⟩ := h
  exact ⟨hhost, hkind, hseen, hmem⟩

/-- what the contract predicate (checked against every driver reply) guarantees -/
theorem activeHosts_contract (s : Store) (kind : String) (limit now : Int) (choice : List String)
    (h : s.validHostChoice kind limit now choice = true) :
    (∀ c ∈ choice, ∃ n ∈ s.nodes.vals, n.id = c ∧ n.isHost = true ∧ (kind = "" ∨ n.kind = kind) ∧ now - W < n.lastSeen) ∧
    choice.length = (if limit ≤ 0 then (s.eligibleHosts kind now).length
                     else min limit.toNat (s.eligibleHosts kind now).length) := by
  simp only [validHostChoice, Bool.and_eq_true, List.all_eq_true, List.contains_iff_mem, List.mem_map,
    beq_iff_eq, expectedHostCount, List.length_map] at h
  obtain ⟨⟨hall, -⟩, hlen⟩ := h
  refine ⟨fun c hc => ?_, hlen⟩
  obtain ⟨n, hn, rfl⟩ := hall c hc
  obtain ⟨hhost, hkind, hseen, hmem⟩ := mem_eligible s kind now n hn
  exact ⟨n, hmem, rfl, hhost, hkind, hseen⟩

/-- `limit = 0` means unlimited, a positive limit caps the reply -/
theorem activeHosts_limit (s : Store) (kind : String) (limit now : Int) (choice : List String)
    (h : s.validHostChoice kind limit now choice = true) :
    (limit = 0 → choice.length = (s.eligibleHosts kind now).length) ∧
    (0 < limit → choice.length ≤ limit.toNat ∧ choice.length ≤ (s.eligibleHosts kind now).length) := by
  have := (activeHosts_contract s kind limit now choice h).2
  constructor
  · intro h0; rwa [if_pos (Int.le_of_eq h0)] at this
  · intro hp; rw [this, if_neg (Int.not_le.2 hp)]; exact ⟨Nat.min_le_left .., Nat.min_le_right ..⟩

/-! ### statistics equal the true counts and sums -/

theorem stats_true_counts (s : Store) (now : Int) :
    (s.stats now).totalCredit = ledgerSum s ∧
    (s.stats now).totalHosts + (s.stats now).totalClients = s.nodes.length ∧
    (s.stats now).activeHosts ≤ (s.stats now).totalHosts ∧
    (s.stats now).activeClients ≤ (s.stats now).totalClients ∧
    (s.stats now).trialBalances ≤ s.balances.length + s.trials.length := by
  refine ⟨rfl, ?_⟩
  simp only [stats, ← List.countP_eq_length_filter]
  refine ⟨?_, ?_, ?_, ?_⟩
  · have := List.length_eq_countP_add_countP (·.isHost) (l := s.nodes.vals)
    simpa [AList.vals] using this.symm
  · exact List.countP_mono_left fun n _ h => by simp at h; exact h.1
  · exact List.countP_mono_left fun n _ h => by simp at h; simp [h.1]
  · exact Nat.le_trans List.countP_le_length (by simp [AList.vals])

/-! ### well-formedness invariant of every reachable store -/

def WF (s : Store) : Prop :=
  NoDupKeys s.nodes ∧ NoDupKeys s.accounts ∧ NoDupKeys s.balances ∧ NoDupKeys s.trials ∧ NoDupKeys s.nonces

theorem wf_empty : WF Store.empty := by simp [WF, Store.empty, NoDupKeys, AList.keys]

theorem wf_applyOp (s : Store) (op : Op) (h : WF s) : WF (applyOp s op) := by
  obtain ⟨h1, h2, h3, h4, h5⟩ := id h  -- `h` itself stays, for the refused calls
  refine applyOp_cases h ?setNode ?unp ?credit ?addAccountBalance ?link ?nonce op
  case setNode => exact fun n _ => ⟨noDup_set _ _ _ h1, h2, h3, h4, h5⟩
  case unp => exact fun id n r b now _ => ⟨noDup_set _ _ _ h1, h2, h3, h4, h5⟩
  case credit =>
    intro id amt _
    unfold credit; split
    · exact ⟨h1, h2, noDup_set _ _ _ h3, h4, h5⟩
    · exact ⟨h1, h2, h3, noDup_set _ _ _ h4, h5⟩
  case addAccountBalance => exact fun a amt => ⟨h1, h2, noDup_set _ _ _ h3, h4, h5⟩
  case link => exact fun a id _ => ⟨h1, noDup_set _ _ _ h2, noDup_set _ _ _ h3, noDup_del _ _ h4, h5⟩
  case nonce => exact fun id n => ⟨h1, h2, h3, h4, noDup_set _ _ _ h5⟩

/-- every store reachable from the empty one by any history is well-formed -/
theorem wf_reachable (ops : List Op) : WF (run Store.empty ops) :=
  List.foldlRecOn ops applyOp wf_empty fun s h op _ => wf_applyOp s op h

/-- non-vacuity: a concrete history in which a trial credit is migrated into a shared wallet -/
example :
    let s := run Store.empty [.setNode { id := "a" }, .setNode { id := "b" }, .addNodeBalance "a" 7,
      .addAccountNode "X" "a", .addAccountNode "X" "b", .addNodeBalance "b" (-2)]
    s.nodeBalance "a" = { account := "X", deposit := 0, credit := 5 } ∧ s.nodeBalance "b" = s.nodeBalance "a" ∧
    s.trials.get "a" = none ∧ ledgerSum s = 5 := by decide +kernel

end Vipnode.C12
