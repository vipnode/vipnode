/-
C06 — A refused request changes nothing.

For every signed endpoint of the pool and payment services: a request that
fails authentication (signature does not verify, or the nonce is stale /
not greater) leaves the whole pool state — nodes, peers, balances, links,
nonce table, host registry, deposits, payouts — exactly as it was, and no host
is called.
-/
import Vipnode.Lemmas.Pool
namespace Vipnode.C06
open Vipnode Vipnode.Pool

/-- a request whose signature does not verify never reaches the nonce table -/
theorem bad_signature_fails (p : Pool) (id : String) (nonce now : Int) :
    p.verify false id nonce now = .error .verifyFailed := rfl

/-- **refused ⇒ no trace**, every endpoint -/
theorem refused_no_effect (p : Pool) (sigOk : Bool) (id : String) (nonce now : Int) (e : PoolErr)
    (hv : p.verify sigOk id nonce now = .error e) :
    (∀ conn src req, p.Connect conn src sigOk id nonce req now = (p, .error .verifyFailed)) ∧
    (∀ reported block mnow fail, p.Update sigOk id nonce reported block now mnow fail = (p, .error .verifyFailed, [])) ∧
    (∀ num choice outcome, p.Peer sigOk id nonce now num choice outcome = (p, .error .verifyFailed)) ∧
    (∀ node, p.AddNode sigOk id nonce now node = (p, .error .verifyFailed)) ∧
    (∀ settleOk, p.Withdraw sigOk id nonce now settleOk = (p, .error .verifyFailed)) := by
  have he := verify_error p sigOk id nonce now e hv
  subst he
  refine ⟨?_, ?_, ?_, ?_, ?_⟩
  · intro conn src req; simp [Connect, hv]
  · intro reported block mnow fail; simp [Update, hv]
  · intro num choice outcome; simp [Peer, hv]
  · intro node; simp [AddNode, payVerify, hv]
  · intro settleOk; simp [Withdraw, payVerify, hv]

/-- in particular no host is asked to whitelist or disconnect anybody -/
theorem refused_calls_no_host (p : Pool) (sigOk : Bool) (id : String) (nonce now : Int) (e : PoolErr)
    (hv : p.verify sigOk id nonce now = .error e) (reported : List String) (block : Nat) (mnow : Int) (fail : Nat → Bool) :
    (p.Update sigOk id nonce reported block now mnow fail).2.2 = [] := by
  rw [(refused_no_effect p sigOk id nonce now e hv).2.1]

theorem error_of_isOk_false {ε α : Type} {x : Except ε α} (h : x.isOk = false) : ∃ e, x = .error e := by
  cases x with
  | ok a => cases h
  | error e => exact ⟨e, rfl⟩

/-- as a step of a history: a refused request is the identity on pool states -/
theorem refused_step_identity (p : Pool) (op : Op) :
    (match op with
     | .connect _ _ sigOk id nonce _ now => (p.verify sigOk id nonce now).isOk = false
     | .update sigOk id nonce _ _ now _ _ => (p.verify sigOk id nonce now).isOk = false
     | .peer sigOk id nonce now _ _ _ => (p.verify sigOk id nonce now).isOk = false
     | .addNode sigOk w nonce now _ => (p.verify sigOk w nonce now).isOk = false
     | .withdraw sigOk w nonce now _ => (p.verify sigOk w nonce now).isOk = false
     | _ => False) → step p op = p := by
  cases op with
  | connect conn src sigOk id nonce req now =>
    intro h; obtain ⟨e, hv⟩ := error_of_isOk_false h; simp only [step, Connect, hv]
  | update sigOk id nonce reported block now mnow fail =>
    intro h; obtain ⟨e, hv⟩ := error_of_isOk_false h; simp only [step, Update, hv]
  | peer sigOk id nonce now num choice outcome =>
    intro h; obtain ⟨e, hv⟩ := error_of_isOk_false h; simp only [step, Peer, hv]
  | addNode sigOk w nonce now node =>
    intro h; obtain ⟨e, hv⟩ := error_of_isOk_false h; simp only [step, AddNode, payVerify, hv]
  | withdraw sigOk w nonce now settleOk =>
    intro h; obtain ⟨e, hv⟩ := error_of_isOk_false h; simp only [step, Withdraw, payVerify, hv]
  | close conn => exact False.elim
  | deposit w a => exact False.elim

/-- **the victim's nonce is not burned**: after a forged request naming `id` with an arbitrarily large
nonce, the legitimate owner's next request — with a smaller, fresh nonce — is verified exactly as if the
forgery had never been sent -/
theorem victim_not_burned (p : Pool) (id : String) (forgedNonce ownerNonce now now' : Int)
    (conn : Option String) (src : String) (req : ConnectReq) :
    let p' := (p.Connect conn src false id forgedNonce req now).1
    p'.verify true id ownerNonce now' = p.verify true id ownerNonce now' :=
  rfl  -- with a bad signature the endpoint returns the pool it was given

/-- the same for the payment service (where the original code consumed the nonce first, DESIGN.md §9 F4) -/
theorem victim_not_burned_payment (p : Pool) (wallet : String) (forgedNonce ownerNonce now now' : Int) (settleOk : Bool) :
    let p' := (p.Withdraw false wallet forgedNonce now settleOk).1
    p'.payVerify true wallet ownerNonce now' = p.payVerify true wallet ownerNonce now' := rfl

/-- the pre-repair order of `PaymentService.verify` (nonce first, then signature) -/
def payVerifyOld (p : Pool) (sigOk : Bool) (wallet : String) (nonce now : Int) : Pool × Except PoolErr Unit :=
  match p.store.checkAndSaveNonce wallet nonce now with
  | .error _ => (p, .error .verifyFailed)
  | .ok s => if sigOk then ({ p with store := s }, .ok ()) else ({ p with store := s }, .error .verifyFailed)

/-- witness for the repaired defect: with the old order a forged request burns the owner's nonces -/
theorem old_payment_verify_counterexample :
    let p : Pool := {}
    let p' := (payVerifyOld p false "w" 5000 1000).1
    (p.payVerify true "w" 2000 1000).isOk = true ∧ (p'.payVerify true "w" 2000 1000).isOk = false := by
  decide +kernel

/-- non-vacuity: in a running session a forged keep-alive is refused and changes nothing -/
example :
    let p := run {} [.connect none "" true "c" 1 {} 1000]
    (p.Update false "c" 99 ["h"] 1 2000 2000).1 = p ∧ (p.store.nodes.get "c").isSome = true := by
  refine ⟨rfl, ?_⟩; decide +kernel

end Vipnode.C06
