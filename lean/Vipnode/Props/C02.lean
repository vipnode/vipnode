/-
C02 — A light client pays elapsed × price per active peer; hosts never pay.

Theorems about `Model/Balance.lean` (`perinterval.go`) and the keep-alive
endpoint of `Model/Pool.lean`; tied to the code by the `pool-*` and `bal-*`
correspondence streams (manager clock injected through the `verif` hook,
elapsed times 0 … 2⁶³, prices beyond 2⁶⁴).
-/
import Vipnode.Lemmas.Pool
import Vipnode.Lemmas.Arith
namespace Vipnode.C02
open Vipnode Vipnode.AList
open Vipnode.Store (ledgerSum applyOp applyOp_addNodeBalance nodeBalance nodeBalance_credit addNodeBalance addNodeBalance_eq)

/-- the amount each active peer is credited: floor(elapsed × price / interval), elapsed saturating
at the 64-bit duration range, unbounded price -/
theorem credit_formula (cfg : BalCfg) (now last : Int) :
    intervalCredit cfg now last = (clampI64 (now - last) * cfg.price) / cfg.interval := rfl

theorem clamp_id (x : Int) (h : i64min ≤ x ∧ x ≤ i64max) : clampI64 x = x := by
  unfold clampI64
  split
  · omega
  · split <;> omega

/-- crediting every peer, one store call each -/
def creditAll (s : Store) (c : Int) (ps : List String) : Store :=
  ps.foldl (fun s p => applyOp s (.addNodeBalance p c)) s

/-- without store faults and with registered peers (what `NodePeers` returns), every peer receives
exactly one `AddNodeBalance(credit)` and the amount to charge is `#peers × credit` -/
theorem creditPeers_spec (s : Store) (c : Int) (k : Nat) (ps : List String)
    (hreg : ∀ p ∈ ps, (s.nodes.get p).isSome) :
    creditPeers s c (fun _ => false) k ps = (creditAll s c ps, ps.length * c) := by
  induction ps generalizing s k with
  | nil => simp [creditPeers, creditAll]
  | cons p ps ih =>
    have hp : s.nodes.get p ≠ none := by have := hreg p List.mem_cons_self; intro e; simp [e] at this
    rw [creditPeers_cons, if_neg (by simp [hp]), ih _ _ (by simpa using fun q hq => hreg q (List.mem_cons_of_mem _ hq))]
    simp only [creditAll, List.foldl_cons, applyOp_addNodeBalance, if_neg hp, List.length_cons, Int.natCast_succ, Int.add_mul, Int.one_mul]

/-- **accepted keep-alive of a light client**: every active peer is credited `credit` by one store
call, then the client is debited exactly `#peers × credit` -/
theorem update_charges (cfg : BalCfg) (s : Store) (d : AList Int) (n : Node) (peers : List String) (now : Int)
    (hc : n.isHost = false) (hset : ¬ (cfg.interval ≤ 0 ∨ cfg.price = 0))
    (hne : intervalCredit cfg now n.lastSeen ≠ 0)
    (hreg : ∀ p ∈ peers, (s.nodes.get p).isSome) (hn : (s.nodes.get n.id).isSome) :
    ∃ s2, (creditAll s (intervalCredit cfg now n.lastSeen) peers).addNodeBalance n.id
              (-(peers.length * intervalCredit cfg now n.lastSeen)) = .ok s2 ∧
          (onUpdate cfg s d n peers now).1 = s2 := by
  have hspec := creditPeers_spec s (intervalCredit cfg now n.lastSeen) 0 peers hreg
  have hn' : (creditAll s (intervalCredit cfg now n.lastSeen) peers).nodes.get n.id ≠ none := by
    have := creditPeers_nodes s (intervalCredit cfg now n.lastSeen) (fun _ => false) 0 peers
    rw [hspec] at this; rw [this]; intro e; simp [e] at hn
  refine ⟨_, by rw [addNodeBalance_eq, if_neg hn'], ?_⟩
  rw [onUpdate_fst, billed, if_pos ⟨hc, hset, hne⟩, hspec, applyOp_addNodeBalance]; exact if_neg hn'

/-- a full node's keep-alive moves nothing -/
theorem host_update_moves_nothing (cfg : BalCfg) (s : Store) (d : AList Int) (n : Node) (peers : List String)
    (now : Int) (fail : Nat → Bool) (h : n.isHost = true) : (onUpdate cfg s d n peers now fail).1 = s := by
  rw [onUpdate_fst, billed, if_neg (fun hc => by simp [hc.1] at h)]

/-- zero elapsed time (or an amount that rounds to zero) moves nothing -/
theorem zero_credit_moves_nothing (cfg : BalCfg) (s : Store) (d : AList Int) (n : Node) (peers : List String)
    (now : Int) (fail : Nat → Bool) (h : intervalCredit cfg now n.lastSeen = 0) :
    (onUpdate cfg s d n peers now fail).1 = s := by
  rw [onUpdate_fst, billed, if_neg (fun hc => hc.2.2 h)]

theorem zero_elapsed_is_zero_credit (cfg : BalCfg) (t : Int) : intervalCredit cfg t t = 0 := by
  simp [intervalCredit, clampI64, i64max, i64min]

/-- invalid price/interval settings are refused before anything moves -/
theorem invalid_settings_move_nothing (cfg : BalCfg) (s : Store) (d : AList Int) (n : Node) (peers : List String)
    (now : Int) (fail : Nat → Bool) (hc : n.isHost = false) (h : cfg.interval ≤ 0 ∨ cfg.price = 0) :
    onUpdate cfg s d n peers now fail = (s, .error .invalidSettings) := by
  rw [onUpdate_eq, if_pos ⟨hc, h⟩]

/-- an empty active-peer set changes no balance (the client is "debited" zero) -/
theorem no_peers_moves_nothing (cfg : BalCfg) (s : Store) (d : AList Int) (n : Node) (now : Int) (fail : Nat → Bool) :
    ∀ x, ((onUpdate cfg s d n [] now fail).1).nodeBalance x = s.nodeBalance x := by
  intro x
  rw [onUpdate_fst, billed]; split
  · simp only [creditPeers, applyOp_addNodeBalance]; split
    · rfl
    · rw [nodeBalance_credit]; split <;> simp
  · rfl

/-! ### the total charged does not depend on how often the client updates -/

/-- elapsed slices of a schedule of keep-alive instants `t₀, t₁, …, tₖ` -/
def slices : List Int → List Int
  | a :: b :: t => (b - a) :: slices (b :: t)
  | _ => []

theorem slices_length (ts : List Int) : (slices ts).length = ts.length - 1 := by
  induction ts with
  | nil => rfl
  | cons a t ih =>
    cases t with
    | nil => rfl
    | cons b t' => rw [slices, List.length_cons, ih]; rfl

/-- no stretch of time is skipped or charged twice: the slices of consecutive keep-alives add up to
exactly the wall-clock span -/
theorem slices_telescope (a : Int) (t : List Int) :
    sumInts (slices (a :: t)) = (a :: t).getLast (by simp) - a := by
  induction t generalizing a with
  | nil => exact (Int.sub_self a).symm
  | cons b t ih =>
    rw [List.getLast_cons (by simp)]
    show b - a + sumInts (slices (b :: t)) = _
    rw [ih b]; omega

theorem sumInts_map_mul (l : List Int) (c : Int) : sumInts (l.map (· * c)) = sumInts l * c := by
  induction l with
  | nil => simp [sumInts]
  | cons a t ih => simp only [sumInts, List.map_cons, List.foldr_cons] at *; rw [ih, Int.add_mul]

/-- **slicing**: billing a span `t₀ … tₖ` in `k` keep-alives charges each peer between
`whole − (k − 1)` and `whole`, where `whole` is what a single keep-alive over the span would charge —
for every schedule, every (unbounded) price, every positive interval -/
theorem slicing (price I : Int) (hI : 0 < I) (a b : Int) (t : List Int) :
    let ts := a :: b :: t
    let perUpdate := (slices ts).map (fun e => e * price / I)
    let whole := (ts.getLast (by simp) - a) * price / I
    sumInts perUpdate ≤ whole ∧ whole ≤ sumInts perUpdate + ((slices ts).length - 1 : Int) := by
  intro ts perUpdate whole
  have hne : (slices ts).map (· * price) ≠ [] := by simp [ts, slices]
  have h := sliced_floor_bounds I hI ((slices ts).map (· * price)) hne
  have htel : sumInts ((slices ts).map (· * price)) = (ts.getLast (by simp) - a) * price := by
    rw [sumInts_map_mul, slices_telescope]
  simp only [List.map_map, List.length_map] at h
  rw [htel] at h
  exact h

/-! ### the keep-alive endpoint bills from the previous check-in and then moves it -/

/-- An accepted (or low-balance) keep-alive bills the interval since the `LastSeen` recorded *before*
this keep-alive, up to the manager's clock reading `mnow`, and leaves `LastSeen = now`, the store's reading:
consecutive keep-alives bill consecutive intervals with no stretch skipped (the stretch between the two
readings of one keep-alive, `UpdateNodePeers` before `OnUpdate` in `pool/service.go`, is billed again by the next). -/
theorem keepalive_bills_since_previous (p p1 : Pool) (sigOk : Bool) (id : String) (nonce : Int)
    (reported : List String) (block : Nat) (now mnow : Int) (fail : Nat → Bool)
    (before : Node) (s2 : Store) (inactive : List String) (active : List Node)
    (hv : p.verify sigOk id nonce now = .ok p1)
    (hb : p1.store.getNode id = .ok before)
    (hu : p1.store.updateNodePeers id reported block now = .ok (s2, inactive))
    (ha : s2.nodePeers id = .ok active) :
    (p.Update sigOk id nonce reported block now mnow fail).1.store =
      (Pool.managerOnUpdate { p1 with store := s2 } before (active.map (·.id)) mnow fail).1 ∧
    ((p.Update sigOk id nonce reported block now mnow fail).1.store.getNode id).toOption.map (·.lastSeen) = some now := by
  have hstore : (p.Update sigOk id nonce reported block now mnow fail).1.store =
      (Pool.managerOnUpdate { p1 with store := s2 } before (active.map (·.id)) mnow fail).1 := by
    unfold Pool.Update
    simp only [hv, hb, hu, ha]
    generalize Pool.managerOnUpdate { p1 with store := s2 } before (active.map (·.id)) mnow fail = mo
    obtain ⟨s3, r⟩ := mo
    simp only
    split <;> rfl
  refine ⟨hstore, ?_⟩
  obtain ⟨n, -, e⟩ := Store.updateNodePeers_ok_iff.1 hu
  cases e
  simp [hstore, Store.getNode, get_set_eq, Except.toOption]

/-- **a (re)connect restarts the billing clock**: whenever the registration got as far as storing the node - the
connect was accepted, or refused only for a low balance - the node's `LastSeen` is the pool's clock reading of that
connect, whatever was recorded before; by `keepalive_bills_since_previous` the next keep-alive then bills from the
connect, not from the time the node was last seen before it went away. -/
theorem connect_restarts_billing_clock (p : Pool) (conn : Option String) (src id : String) (req : Pool.ConnectReq) (now : Int)
    (h : (p.connect conn src id req now).2 = .ok () ∨ ∃ c m, (p.connect conn src id req now).2 = .error (.lowBalance c m)) :
    ((p.connect conn src id req now).1.store.getNode id).toOption.map (·.lastSeen) = some now := by
  rcases Pool.connect_cases p conn src id req now with ⟨e, he, hlow⟩ | ⟨p1, uri, he, -⟩ <;> rw [he] at h ⊢
  · -- the registration step only fails for want of a connection or of a usable address
    rcases h with h | ⟨c, m, h⟩ <;> cases h
    exact absurd rfl (hlow c m)
  · by_cases hid : (Pool.connectNode id req now uri).id = ""
    · rw [Pool.connectStore, if_pos hid] at h; rcases h with h | ⟨c, m, h⟩ <;> cases h
    · rw [Pool.connectStore, if_neg hid]; simp [Store.getNode, Pool.connectNode, get_set_eq, Except.toOption]

/-- a refused keep-alive (bad signature or nonce) leaves every balance and every `LastSeen` untouched -/
theorem refused_keepalive_moves_nothing (p : Pool) (id : String) (nonce : Int) (reported : List String)
    (block : Nat) (now mnow : Int) (fail : Nat → Bool) (e : PoolErr)
    (hv : p.verify sigOk id nonce now = .error e) :
    (p.Update sigOk id nonce reported block now mnow fail).1 = p := by
  rw [Pool.Update_fst, hv]

/-! ### non-vacuity: a two-minute span billed in one, two or three keep-alives -/
example :
    let I : Int := 60000000000
    let price : Int := 18446744073709551629  -- beyond 2⁶⁴
    ((120000000000 * price) / I = 36893488147419103258) ∧
    (sumInts ((slices [0, 50000000001, 120000000000]).map (fun e => e * price / I)) = 36893488147419103257) ∧
    (sumInts ((slices [0, 1, 70000000000, 120000000000]).map (fun e => e * price / I)) = 36893488147419103257) := by
  decide +kernel

end Vipnode.C02
