/-
C03 — Minimum balance: clients below it are refused and cut off, others never are.

Decision logic of `perinterval.go` (`OnClient`, `OnUpdate`) and of the
keep-alive endpoint's cut-off, stated outright in both directions.
-/
import Vipnode.Lemmas.Pool
namespace Vipnode.C03
open Vipnode Vipnode.AList

/-- the comparison both checks make: the answer is "low balance `cur`, minimum `m`" exactly when `m` is the minimum
applied, `cur` the total compared with it, and `cur` is below `m` -/
theorem lowBalance_iff {α : Type} (min total cur m : Int) (x : α) :
    (if min > total then Except.error (BalErr.lowBalance total min) else Except.ok x) = .error (.lowBalance cur m) ↔
      min = m ∧ cur = total ∧ cur < m := by
  split
  · next h =>
    simp only [Except.error.injEq, BalErr.lowBalance.injEq]
    exact ⟨fun ⟨e1, e2⟩ => ⟨e2, e1.symm, e1 ▸ e2 ▸ h⟩, fun ⟨e1, e2, _⟩ => ⟨e2.symm, e1⟩⟩
  · next h => simp only [reduceCtorEq, false_iff]; rintro ⟨rfl, rfl, h'⟩; exact h h'

/-- the verdict is "low balance" exactly when a minimum applies and the balance read is below it -/
theorem verdict_lowBalance_iff (min : Option Int) (r : Except StoreErr Bal) (cur m : Int) :
    verdict min r = .error (.lowBalance cur m) ↔
      min = some m ∧ ∃ b, r = .ok b ∧ cur = b.credit + b.deposit ∧ cur < m := by
  unfold verdict
  cases r with
  | error e => simp
  | ok b => cases min with
    | none => simp
    | some m' => simp only [lowBalance_iff, Option.some.injEq, Except.ok.injEq, exists_eq_left']

/-- **connect**: a light client is refused exactly when a minimum is configured and its spendable
balance (deposit + credit) is below it, and the error reports that balance -/
theorem connect_refused_iff (cfg : BalCfg) (s : Store) (d : AList Int) (n : Node) (b : Bal)
    (hb : spendable s d n.id = .ok b) (cur m : Int) :
    onClient cfg s d n = .error (.lowBalance cur m) ↔
      cfg.minBalance = some m ∧ n.isHost = false ∧ cur = b.credit + b.deposit ∧ cur < m := by
  unfold onClient
  cases cfg.minBalance with
  | none => simp
  | some m' =>
    cases n.isHost with
    | true => simp
    | false => simp only [hb, Bool.false_eq_true, if_false, lowBalance_iff, Option.some.injEq, true_and]

/-- **a minimum of zero is a minimum**: it refuses exactly the clients that owe something -/
theorem zero_minimum_refuses_overdrawn (cfg : BalCfg) (s : Store) (d : AList Int) (n : Node) (b : Bal)
    (hb : spendable s d n.id = .ok b) (hm : cfg.minBalance = some 0) (hh : n.isHost = false)
    (hneg : b.credit + b.deposit < 0) :
    onClient cfg s d n = .error (.lowBalance (b.credit + b.deposit) 0) :=
  (connect_refused_iff cfg s d n b hb _ 0).2 ⟨hm, hh, rfl, hneg⟩

/-- a client at or above the minimum (or with no minimum configured) is accepted at connect -/
theorem connect_accepted (cfg : BalCfg) (s : Store) (d : AList Int) (n : Node) (b : Bal)
    (hb : spendable s d n.id = .ok b)
    (h : cfg.minBalance = none ∨ ∃ m, cfg.minBalance = some m ∧ m ≤ b.credit + b.deposit) :
    onClient cfg s d n = .ok () := by
  unfold onClient
  rcases h with h | ⟨m, hm, hle⟩
  · rw [h]
  · rw [hm]; dsimp only
    cases n.isHost
    · rw [hb]; exact if_neg (Int.not_lt.2 hle)
    · rfl

/-- **keep-alive**: the cut-off reports the balance *after* this keep-alive's charge, compared with the
configured minimum; it happens exactly when this keep-alive charged something and that balance is below the minimum -/
theorem update_cutoff_iff (cfg : BalCfg) (s : Store) (d : AList Int) (n : Node) (peers : List String) (now : Int)
    (fail : Nat → Bool) (cur m : Int) :
    (onUpdate cfg s d n peers now fail).2 = .error (.lowBalance cur m) ↔
      n.isHost = false ∧ ¬ (cfg.interval ≤ 0 ∨ cfg.price = 0) ∧ intervalCredit cfg now n.lastSeen ≠ 0 ∧
      cfg.minBalance = some m ∧
      ∃ b, spendable (onUpdate cfg s d n peers now fail).1 d n.id = .ok b ∧ cur = b.credit + b.deposit ∧ cur < m := by
  rw [onUpdate_snd, onUpdate_fst]
  by_cases hc : charged cfg n now
  · have ⟨hh, hs, hz⟩ := hc
    rw [if_neg (fun h => hs h.2), if_pos hc, verdict_lowBalance_iff]
    exact ⟨fun h => ⟨hh, hs, hz, h⟩, by rintro ⟨-, -, -, h⟩; exact h⟩
  · -- nothing charged: no minimum applies
    rw [if_neg hc]
    refine iff_of_false ?_ (by rintro ⟨hh, hs, hz, -⟩; exact hc ⟨hh, hs, hz⟩)
    split
    · exact nofun
    · simp [verdict_lowBalance_iff]

/-- full-node hosts are never refused for their balance, at connect or at a keep-alive -/
theorem hosts_never_refused (cfg : BalCfg) (s : Store) (d : AList Int) (n : Node) (h : n.isHost = true) :
    (∀ c m, onClient cfg s d n ≠ .error (.lowBalance c m)) ∧
    (∀ peers now fail c m, (onUpdate cfg s d n peers now fail).2 ≠ .error (.lowBalance c m)) := by
  constructor
  · intro c m
    unfold onClient; rw [h]
    cases cfg.minBalance <;> exact fun hlow => by cases hlow
  · intro peers now fail c m hcut
    have := ((update_cutoff_iff cfg s d n peers now fail c m).1 hcut).1
    rw [h] at this; cases this

/-- when the keep-alive cuts the client off, the pool asks exactly the connected hosts among the client's
active peers to disconnect it, each on the connection it is registered on; otherwise it asks nobody -/
theorem cutoff_disconnects (p : Pool) (sigOk : Bool) (id : String) (nonce : Int) (reported : List String)
    (block : Nat) (now mnow : Int) (fail : Nat → Bool)
    (r : Pool × Except PoolErr Pool.UpdateResp × List (String × String))
    (hr : r = p.Update sigOk id nonce reported block now mnow fail) :
    (∀ c m, r.2.1 = .error (.lowBalance c m) →
        ∃ active, r.1.store.nodePeers id = .ok active ∧
          r.2.2 = active.filterMap (fun n => (r.1.hosts.get n.id).map (fun c => (n.id, c)))) ∧
    ((∀ c m, r.2.1 ≠ .error (.lowBalance c m)) → r.2.2 = []) := by
  unfold Pool.Update at hr
  split at hr
  · rename_i e hv
    cases Pool.verify_error p sigOk id nonce now e hv
    subst hr; exact ⟨fun _ _ h => (by cases h), fun _ => rfl⟩
  · rename_i p1 hv
    split at hr
    · subst hr; exact ⟨fun _ _ h => (by cases h), fun _ => rfl⟩
    · rename_i before hb
      split at hr
      · subst hr; exact ⟨fun _ _ h => (by cases h), fun _ => rfl⟩
      · rename_i s2 inactive hu
        simp only at hr
        split at hr
        · subst hr; exact ⟨fun _ _ h => (by cases h), fun _ => rfl⟩
        · rename_i active ha
          have hf1 := Pool.managerOnUpdate_nodes { p1 with store := s2 } before (active.map (·.id)) mnow fail
          have hf2 := Pool.managerOnUpdate_peers { p1 with store := s2 } before (active.map (·.id)) mnow fail
          generalize Pool.managerOnUpdate { p1 with store := s2 } before (active.map (·.id)) mnow fail = mo at hr hf1 hf2
          obtain ⟨s3, res⟩ := mo
          simp only at hr hf1 hf2
          split at hr
          · -- cut off: billing left the node and peer tables alone, so the active peers are still `active`
            subst hr
            rename_i c m
            have hpeers : Store.nodePeers s3 id = .ok active := by
              unfold Store.nodePeers Store.trackedPeers at *
              rw [hf1, hf2]; exact ha
            exact ⟨fun _ _ _ => ⟨active, hpeers, rfl⟩, fun h => absurd rfl (h c m)⟩
          · rename_i e hne
            subst hr
            refine ⟨fun c m h => ?_, fun _ => rfl⟩
            cases e with
            | lowBalance c' m' => exact absurd rfl (hne c' m')
            | store e' => cases h
            | invalidSettings => cases h
          · subst hr; exact ⟨fun _ _ h => (by cases h), fun _ => rfl⟩

/-! ### non-vacuity: the situation of the defect that was repaired (DESIGN.md §9 F1)

balance 1 000 000, minimum 100 000, a charge of 1 000: the client stays connected (the original code
compared the *charge* with the minimum and cut it off); with balance 100 500 the same charge cuts it off
and reports 99 500. -/
example :
    let cfg : BalCfg := { price := 1000, minBalance := some 100000 }
    let s0 : Store := (Store.run Store.empty [.setNode { id := "h", isHost := true }, .setNode { id := "c" },
      .addNodeBalance "c" 1000000])
    let s1 : Store := (Store.run Store.empty [.setNode { id := "h", isHost := true }, .setNode { id := "c" },
      .addNodeBalance "c" 100500])
    (onUpdate cfg s0 [] { id := "c" } ["h"] 60000000000).2 = .ok { credit := 999000 } ∧
    (onUpdate cfg s1 [] { id := "c" } ["h"] 60000000000).2 = .error (.lowBalance 99500 100000) := by
  refine ⟨?_, ?_⟩ <;> rfl

end Vipnode.C03
