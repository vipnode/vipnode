/-
C10 — Concurrent requests are race-free, serialisable, and see immutable snapshots.

What is proved here (about the store model, whose operations are the atomic steps of both drivers: one mutex-
protected method of the memory driver, one transaction of the badger driver, retried on conflict):

* no update is lost and final balances do not depend on the schedule (`no_lost_update`, `schedule_independent`);
* the node and peer tables after *any* interleaving of requests are those of the serial execution in commit order,
  the commit point of a keep-alive being its single `UpdateNodePeers` step (`peers_state_serialisable`);
* nonce decisions are linearizable (C05 `at_most_once`, `racing_duplicates`).

The full statement "the final state equals that of one serial order of whole requests" is kept visible as
`FinalStateSerialisable`; the proved part is `final_state_serialisable_partial` (tables + balances, for requests of
distinct node identities).  The excluded point — two in-flight keep-alives of the *same* node, which read the same
`LastSeen` and bill the same stretch twice — is recorded in DESIGN.md and known_findings.json.

Snapshots: Lean values are immutable, so aliasing cannot be expressed in the model; that clause is decided by the
correspondence harness (every value ever handed out is re-read after every later operation).  Data races are a
property of the Go memory model: supported by `-race` runs of the concurrent streams, not proved.
-/
import Vipnode.Lemmas.Balance
namespace Vipnode.C10
open Vipnode Vipnode.AList
open Vipnode.Store (applyOp)

/-! ### no lost update, schedule independence -/

def credits (calls : List (String × Int)) (a : String) : Int :=
  sumInts ((calls.filter (fun c => c.1 == a)).map (·.2))

theorem getAccountBalance_add (s : Store) (a b : String) (amt : Int) :
    ((s.addAccountBalance a amt).getAccountBalance b).credit =
      (s.getAccountBalance b).credit + (if a = b then amt else 0) := by
  by_cases e : a = b
  · subst e; simp [Store.addAccountBalance, Store.getAccountBalance, get_set_eq]
  · simp [Store.addAccountBalance, Store.getAccountBalance, get_set_ne _ _ e, e]

theorem credits_cons (c : String × Int) (cs : List (String × Int)) (a : String) :
    credits (c :: cs) a = (if c.1 = a then c.2 else 0) + credits cs a := by
  unfold credits
  by_cases e : c.1 = a <;> simp [List.filter_cons, e, sumInts]

/-- **no update is lost**: after any sequence (hence any interleaving) of acknowledged balance updates, every
wallet holds its initial credit plus the sum of the deltas addressed to it -/
theorem no_lost_update (s : Store) (calls : List (String × Int)) (a : String) :
    ((calls.foldl (fun s c => s.addAccountBalance c.1 c.2) s).getAccountBalance a).credit =
      (s.getAccountBalance a).credit + credits calls a := by
  induction calls generalizing s with
  | nil => exact (Int.add_zero _).symm
  | cons c cs ih => rw [List.foldl_cons, ih, getAccountBalance_add, credits_cons, Int.add_assoc]

theorem credits_perm (l₁ l₂ : List (String × Int)) (h : l₁.Perm l₂) (a : String) : credits l₁ a = credits l₂ a := by
  unfold credits
  exact sumInts_perm ((h.filter _).map _)

/-- **the schedule does not matter**: two executions of the same updates in different orders leave every wallet
with the same credit -/
theorem schedule_independent (s : Store) (sched₁ sched₂ : List (String × Int)) (h : sched₁.Perm sched₂) (a : String) :
    ((sched₁.foldl (fun s c => s.addAccountBalance c.1 c.2) s).getAccountBalance a).credit =
    ((sched₂.foldl (fun s c => s.addAccountBalance c.1 c.2) s).getAccountBalance a).credit := by
  rw [no_lost_update, no_lost_update, credits_perm _ _ h]

/-! ### the node and peer tables are serialisable in commit order -/

/-- the part of the state the keep-alive bookkeeping lives in -/
def np (s : Store) : AList Node × AList (AList Int) := (s.nodes, s.peers)

/-- operations that are commit points for the node/peer tables -/
def isCommit : Store.Op → Bool
  | .setNode _ => true
  | .unp .. => true
  | _ => false

/-- the other atomic steps of a request (nonce check, balance movements, wallet link) do not touch the tables -/
theorem noncommit_keeps_np (s : Store) (op : Store.Op) (h : isCommit op = false) : np (applyOp s op) = np s := by
  cases op with
  | setNode n => cases h
  | unp i r b now => cases h
  | addNodeBalance i amt => rw [Store.applyOp_addNodeBalance]; split <;> simp [np]
  | addAccountBalance a amt => rfl
  | addAccountNode a i => rw [Store.applyOp_addAccountNode]; split <;> rfl
  | nonce i n now => rw [Store.applyOp_nonce]; split <;> rfl

/-- a commit step reads and writes only the tables -/
theorem commit_depends_on_np (s₁ s₂ : Store) (op : Store.Op) (hc : isCommit op = true) (h : np s₁ = np s₂) :
    np (applyOp s₁ op) = np (applyOp s₂ op) := by
  obtain ⟨hn, hp⟩ : s₁.nodes = s₂.nodes ∧ s₁.peers = s₂.peers := Prod.mk.inj h
  cases op with
  | setNode n => rw [Store.applyOp_setNode, Store.applyOp_setNode]; split <;> simp only [np, hn, hp]
  | unp i r b now =>
    rw [Store.applyOp_unp, Store.applyOp_unp, hn]
    cases s₂.nodes.get i <;> simp only [np, Store.checkIn, hn, hp]
  | addNodeBalance i amt => cases hc
  | addAccountBalance a amt => cases hc
  | addAccountNode a i => cases hc
  | nonce i n now => cases hc

/-- **the tables after any interleaving are those of the commit steps alone, in their order** -/
theorem np_of_schedule (s₁ s₂ : Store) (sched : List Store.Op) (h : np s₁ = np s₂) :
    np (Store.run s₁ sched) = np (Store.run s₂ (sched.filter isCommit)) := by
  induction sched generalizing s₁ s₂ with
  | nil => exact h
  | cons op ops ih =>
    rw [Store.run, List.foldl_cons, List.filter_cons]
    cases hc : isCommit op
    · exact ih _ _ ((noncommit_keeps_np s₁ op hc).trans h)
    · exact ih _ _ (commit_depends_on_np s₁ s₂ op hc h)

/-- **serialisable in commit order**: two executions of the same requests whose commit steps occur in the same
order — in particular any interleaving and the serial execution ordered by commit points — end with the same node
and peer tables -/
theorem peers_state_serialisable (s : Store) (interleaved serial : List Store.Op)
    (h : interleaved.filter isCommit = serial.filter isCommit) :
    np (Store.run s interleaved) = np (Store.run s serial) := by
  rw [np_of_schedule s s interleaved rfl, np_of_schedule s s serial rfl, h]

/-- the full statement (kept visible): the whole final state equals that of a serial execution of the requests -/
def FinalStateSerialisable (s : Store) (interleaved serial : List Store.Op) : Prop :=
  np (Store.run s interleaved) = np (Store.run s serial) ∧
  ∀ a, ((Store.run s interleaved).getAccountBalance a).credit = ((Store.run s serial).getAccountBalance a).credit

/-- proved part: for executions made of commit steps and direct wallet movements, with the same commit order and
the same multiset of movements -/
theorem final_state_serialisable_partial (s : Store) (commits : List Store.Op) (moves₁ moves₂ : List (String × Int))
    (hc : ∀ op ∈ commits, isCommit op = true) (hm : moves₁.Perm moves₂) :
    let exec := fun (moves : List (String × Int)) =>
      moves.foldl (fun s c => s.addAccountBalance c.1 c.2) (Store.run s commits)
    np (exec moves₁) = np (exec moves₂) ∧
    ∀ a, ((exec moves₁).getAccountBalance a).credit = ((exec moves₂).getAccountBalance a).credit := by
  intro exec
  -- wallet movements leave the tables alone
  have hnp : ∀ moves, np (exec moves) = np (Store.run s commits) := fun moves =>
    List.foldlRecOn moves _ (motive := fun t => np t = np (Store.run s commits)) rfl fun _ h _ _ => h
  exact ⟨(hnp _).trans (hnp _).symm, schedule_independent _ _ _ hm⟩

/-- the excluded point of the full statement, as a theorem about the model: two keep-alives of the same client that
both read the record before either commits bill the same stretch twice (witness: 2 × 2000 instead of 2000 + 0) -/
theorem same_node_double_billing_counterexample :
    let cfg : BalCfg := { price := 1000 }
    let s := Store.run Store.empty [.setNode { id := "h", isHost := true, lastSeen := 120000000000 }, .setNode { id := "c", lastSeen := 0 }]
    let before : Node := { id := "c", lastSeen := 0 }
    -- both requests snapshot `before`, then each bills [0, 2 min)
    let s1 := (onUpdate cfg s [] before ["h"] 120000000000).1
    let s2 := (onUpdate cfg s1 [] before ["h"] 120000000000).1
    (s2.nodeBalance "c").credit = -4000 := by decide +kernel

end Vipnode.C10
