/-
C17 — Messages arrive exactly once, intact and in order, however the transport chunks.

Theorems about the byte-level reader model of the stream codec
(`Model/Codec.lean`): for every sequence of framed messages and *every* way of
splitting and merging the byte stream into reads.
-/
import Vipnode.Model.Codec
namespace Vipnode.C17
open Vipnode

/-- **chunking is unobservable**: what the persistent-decoder codec delivers depends only on the
concatenation of the reads, not on where the transport cut them -/
theorem chunking_independent (chunks : List (List UInt8)) :
    readChunks chunks = (feedAll {} chunks.flatten).done := by
  unfold readChunks feedAll
  rw [List.foldl_flatten]

theorem chunking_independent' (cs₁ cs₂ : List (List UInt8)) (h : cs₁.flatten = cs₂.flatten) :
    readChunks cs₁ = readChunks cs₂ := by
  rw [chunking_independent, chunking_independent, h]

/-- already delivered messages are never touched again -/
theorem feed_done_prefix (r : Reader) (d : List (List UInt8)) (b : UInt8) :
    feed { r with doneRev := r.doneRev ++ d } b = { feed r b with doneRev := (feed r b).doneRev ++ d } := by
  obtain ⟨sc, cur, dn⟩ := r
  unfold feed
  by_cases hsp : sc.depth = 0 ∧ sc.inStr = false ∧ cur = [] ∧ isSpace b
  · rw [if_pos hsp, if_pos hsp]
  · rw [if_neg hsp, if_neg hsp]
    rcases scanByte sc b with ⟨s', _ | _⟩ <;> rfl

theorem feedAll_done_prefix (r : Reader) (d : List (List UInt8)) (bs : List UInt8) :
    feedAll { r with doneRev := r.doneRev ++ d } bs = { feedAll r bs with doneRev := (feedAll r bs).doneRev ++ d } :=
  List.foldl_rel (r := fun (r' r : Reader) => r' = { r with doneRev := r.doneRev ++ d }) rfl
    fun b _ _ r e => by rw [e, feed_done_prefix]

theorem feedAll_append (r : Reader) (a b : List UInt8) : feedAll r (a ++ b) = feedAll (feedAll r a) b := by
  simp [feedAll, List.foldl_append]

/-- the delivery condition used below: fed to a clean reader the message is delivered whole and the reader
is clean again -/
def Whole (m : List UInt8) : Prop := feedAll {} m = { scan := {}, curRev := [], doneRev := [m] }

theorem clean_newline (d : List (List UInt8)) :
    feed { scan := {}, curRev := [], doneRev := d } cNewline = { scan := {}, curRev := [], doneRev := d } := by
  simp [feed, isSpace, cNewline]

theorem feed_message (d : List (List UInt8)) (m : List UInt8) (h : Whole m) :
    feedAll { scan := {}, curRev := [], doneRev := d } (m ++ [cNewline]) = { scan := {}, curRev := [], doneRev := m :: d } := by
  rw [feedAll_append,
    show ({ scan := {}, curRev := [], doneRev := d } : Reader) = { ({} : Reader) with doneRev := [] ++ d } from rfl,
    feedAll_done_prefix, h]
  exact clean_newline _

theorem feed_messages (d : List (List UInt8)) (ms : List (List UInt8)) (h : ∀ m ∈ ms, Whole m) :
    feedAll { scan := {}, curRev := [], doneRev := d } (ms.map (· ++ [cNewline])).flatten =
      { scan := {}, curRev := [], doneRev := ms.reverse ++ d } := by
  induction ms generalizing d with
  | nil => simp [feedAll]
  | cons m ms ih =>
    simp only [List.map_cons, List.flatten_cons]
    rw [feedAll_append, feed_message d m (h m List.mem_cons_self), ih _ (fun x hx => h x (List.mem_cons_of_mem _ hx))]
    simp

/-- **exactly once, intact, in order, for every chunking**: whatever reads the transport produces out of the
bytes of the written messages, the codec delivers exactly the written messages, in order -/
theorem stream_exactly_once (ms : List (List UInt8)) (h : ∀ m ∈ ms, Whole m) (chunks : List (List UInt8))
    (hj : chunks.flatten = (ms.map (· ++ [cNewline])).flatten) : readChunks chunks = ms := by
  rw [chunking_independent, hj, show ({} : Reader) = { scan := {}, curRev := [], doneRev := [] } from rfl,
    feed_messages [] ms h]
  simp [Reader.done]

/-- **HTTP transport**: a request or reply body carries one written message; however net/http hands the body over
(an announced length read in one piece, or chunked transfer encoding in any number of pieces of any sizes) the
side reading it gets exactly that message, once (stream op `http`; seeded change C17-r4 read nothing from bodies of
unannounced length, C17-r5 sent a body twice) -/
theorem http_body_one_message (m : List UInt8) (h : Whole m) (chunks : List (List UInt8))
    (hj : chunks.flatten = m ++ [cNewline]) : readChunks chunks = [m] :=
  stream_exactly_once [m] (List.forall_mem_singleton.2 h) chunks (by simpa using hj)

/-- **concurrent locked writers**: each writer emits whole messages under the write lock, so the byte stream is
the concatenation of whole messages in *some* order `order` (any interleaving of the writers); the reader
delivers exactly that order — never a mixture of two messages -/
theorem locked_writers_do_not_interleave (order : List (List UInt8)) (h : ∀ m ∈ order, Whole m)
    (chunks : List (List UInt8)) (hj : chunks.flatten = (order.map (· ++ [cNewline])).flatten) :
    readChunks chunks = order := stream_exactly_once order h chunks hj

/-- one message per WebSocket frame: frames are delivered whole, so each frame is one read holding one message -/
theorem ws_one_message_per_frame (ms : List (List UInt8)) (h : ∀ m ∈ ms, Whole m) :
    readChunks (ms.map (· ++ [cNewline])) = ms := stream_exactly_once ms h _ rfl

instance (m : List UInt8) : Decidable (Whole m) := by unfold Whole; infer_instance

/-- witness for the repaired defect (DESIGN.md §9 F12): with a decoder per message, two messages coalesced
into one read lose the second; the persistent decoder delivers both.  (m1 = `{"id":1}`, m2 = `{"id":2}`) -/
theorem per_message_reader_counterexample :
    let m1 : List UInt8 := [123, 34, 105, 100, 34, 58, 49, 125]
    let m2 : List UInt8 := [123, 34, 105, 100, 34, 58, 50, 125]
    readChunksOld [m1 ++ [cNewline] ++ m2 ++ [cNewline]] = [m1] ∧
    readChunks [m1 ++ [cNewline] ++ m2 ++ [cNewline]] = [m1, m2] := by decide +kernel

/-- non-vacuity: messages with braces and escaped quotes inside strings, nested objects and multi-byte characters
satisfy the delivery condition:
`{"id":1,"method":"m","params":["}{","a\"b\\",{"x":{"y":[1,2]}}]}`, `{"result":"héllo ✓","id":7}`, `{}` -/
theorem whole_examples :
    Whole [123, 34, 105, 100, 34, 58, 49, 44, 34, 109, 101, 116, 104, 111, 100, 34, 58, 34, 109, 34, 44, 34, 112, 97, 114, 97, 109, 115, 34, 58, 91, 34, 125, 123, 34, 44, 34, 97, 92, 34, 98, 92, 92, 34, 44, 123, 34, 120, 34, 58, 123, 34, 121, 34, 58, 91, 49, 44, 50, 93, 125, 125, 93, 125] ∧
    Whole [123, 34, 114, 101, 115, 117, 108, 116, 34, 58, 34, 104, 195, 169, 108, 108, 111, 32, 226, 156, 147, 34, 44, 34, 105, 100, 34, 58, 55, 125] ∧ Whole [123, 125] := by decide +kernel

/-- an awkward chunking (cuts inside a string, inside an escape, coalescing the tail of one message with the head
of the next) still delivers `{"a":"}\"{"}` and `{"b":{"c":2}}` -/
example :
    let m1 : List UInt8 := [123, 34, 97, 34, 58, 34, 125, 92, 34, 123, 34, 125]
    let m2 : List UInt8 := [123, 34, 98, 34, 58, 123, 34, 99, 34, 58, 50, 125, 125]
    let stream := m1 ++ [cNewline] ++ m2 ++ [cNewline]
    readChunks [stream.take 5, (stream.drop 5).take 3, (stream.drop 8).take 9, stream.drop 17] = [m1, m2] := by decide +kernel

end Vipnode.C17
