/-
C03 / C02 (configuration glue) — the amounts an operator writes on the command line (`--contract.min-balance`,
`--contract.price`) are the amounts the pool runs with: theorems about `Model/Ether.parseEther`, the model of
`internal/pretty.ParseEther` that the `poolbin-flags` stream compares with the built binary.
-/
import Vipnode.Model.Ether
namespace Vipnode.C03E
open Vipnode.Ether

/-- every unit multiplies by a positive power of ten - none of them silently turns an amount into zero
(the repaired defect: the unit `wei` multiplied by 0) -/
theorem unit_factor_pos (u : String) (f : Int) (h : unitFactor u = some f) : 0 < f := by
  unfold unitFactor at h
  split at h <;> cases h <;> decide

/-- the units are the documented denominations -/
theorem unit_table :
    unitFactor "wei" = some 1 ∧ unitFactor "gwei" = some (10 ^ 9) ∧ unitFactor "ether" = some (10 ^ 18) ∧
    unitFactor "kwei" = some (10 ^ 3) ∧ unitFactor "mwei" = some (10 ^ 6) ∧ unitFactor "szabo" = some (10 ^ 12) ∧
    unitFactor "finney" = some (10 ^ 15) := by decide +kernel

/-- a whole number of units is exactly that many times the unit -/
theorem whole_amount_exact (n f : Int) : (n * f) / ((10 ^ 0 : Nat) : Int) = n * f := by simp

/-- a positive amount of at least one wei never becomes zero or negative -/
theorem positive_amount_positive (n f : Int) (d : Nat) (hd : 0 < d) (h : (d : Int) ≤ n * f) : 0 < (n * f) / (d : Int) :=
  (Int.le_ediv_iff_mul_le (Int.natCast_pos.2 hd)).2 (by rw [Int.zero_add, Int.one_mul]; exact h)

/-- the minimum the binary runs with for the flag values of the repaired defect -/
example : parseEther "1 wei" = some 1 ∧ parseEther "250 wei" = some 250 ∧ parseEther "-1 wei" = some (-1) := by decide +kernel

/-- **only `off` switches the minimum off**: every other accepted value of `--contract.min-balance` — zero in any
spelling and negative amounts included — configures a minimum (seeded change C03-r4 made a zero minimum behave as
`off`; the `poolbin-flags` stream bills a client below zero against such a binary) -/
theorem only_off_disables_minimum (s : String) : minBalanceFlag s = some none ↔ s = "off" := by
  unfold minBalanceFlag
  by_cases h : s = "off"
  · simp [h]
  · have hb : (s == "off") = false := by simpa using h
    simp only [hb, Bool.false_eq_true, if_false, h, iff_false]
    cases parseEther s <;> simp

theorem zero_is_a_minimum : minBalanceFlag "0" = some (some 0) ∧ minBalanceFlag "0 wei" = some (some 0) ∧
    minBalanceFlag "0.0" = none ∧ minBalanceFlag "0 ether" = some (some 0) ∧ minBalanceFlag "-1" = some (some (-1)) := by decide +kernel

end Vipnode.C03E
