/-
C09 — The pool talks to a host exactly while that host has a live connection.

The registry of `pool/service.go` (`remoteHosts`, `remoteNodeLookup`,
`CloseRemote`, the registration inside `connect`) as `Pool.register` /
`Pool.closeRemote`, against a specification stated on the *history* of
registration and close events: a host is callable, on connection c, exactly
when its most recent registration was on c and c has not been closed since.
-/
import Vipnode.Lemmas.Pool
namespace Vipnode.C09
open Vipnode Vipnode.Pool Vipnode.AList

inductive Ev
  | reg (id conn : String)   -- a verified host connect arriving on `conn`
  | close (conn : String)    -- `CloseRemote(conn)`
deriving Repr, DecidableEq

def applyEv (p : Pool) : Ev → Pool
  | .reg id c => p.register id c
  | .close c => p.closeRemote c

/-- the registry after a history (oldest event first) -/
def runEvs (p : Pool) (evs : List Ev) : Pool := evs.foldl applyEv p

/-- specification, on the history newest-first: the connection of the most recent registration of `id`,
unless that connection was closed after it -/
def specCallable (id : String) : List Ev → Option String
  | [] => none
  | .reg id' c :: older => if id' = id then some c else specCallable id older
  | .close c :: older => match specCallable id older with
    | some c' => if c' = c then none else some c'
    | none => none

/-- every registered connection has a reverse-lookup entry (so that its close is never ignored) -/
def RegInv (p : Pool) : Prop := ∀ id c, p.hosts.get id = some c → (p.lookup.get c).isSome

theorem regInv_register (p : Pool) (id c : String) (h : RegInv p) : RegInv (p.register id c) := by
  intro id' c' hg
  simp only [register] at hg ⊢
  by_cases e : id = id'
  · subst e; rw [get_set_eq] at hg; cases hg; simp [get_set_eq]
  · rw [get_set_ne _ _ e] at hg
    by_cases ec : c = c'
    · subst ec; simp [get_set_eq]
    · rw [get_set_ne _ _ ec]; exact h id' c' hg

/-- with distinct keys, filtering by connection keeps exactly the bindings to other connections -/
theorem get_filter (l : AList String) (hn : NoDupKeys l) (c id : String) :
    AList.get (l.filter (fun kv => kv.2 != c)) id = match l.get id with
      | some c' => if c' = c then none else some c'
      | none => none := by
  rw [AList.get_filter l hn]
  cases l.get id with
  | none => rfl
  | some c' => by_cases e : c' = c <;> simp [Option.filter, e]

def Inv (p : Pool) : Prop := RegInv p ∧ NoDupKeys p.hosts

theorem inv_empty : Inv {} := ⟨fun id c h => by simp [AList.get] at h, by simp [NoDupKeys, keys]⟩

theorem inv_applyEv (p : Pool) (ev : Ev) (h : Inv p) : Inv (applyEv p ev) := by
  cases ev with
  | reg id c => exact ⟨regInv_register p id c h.1, noDup_set _ _ _ h.2⟩
  | close c =>
    simp only [applyEv, closeRemote]
    split
    · exact h
    · refine ⟨fun id' c' hg => ?_, noDup_filter _ h.2 _⟩
      simp only at hg ⊢
      -- a binding that survives the filter is an old one, to another connection
      rw [AList.get_filter _ h.2, Option.filter_eq_some_iff] at hg
      obtain ⟨hg, hne⟩ := hg
      rw [get_del_ne _ fun e => by simp [e] at hne]
      exact h.1 id' c' hg

theorem inv_runEvs (evs : List Ev) : Inv (runEvs {} evs) :=
  List.foldlRecOn evs applyEv inv_empty fun p h ev _ => inv_applyEv p ev h

/-- one event moves the registry exactly as the specification says -/
theorem callable_step (p : Pool) (ev : Ev) (h : Inv p) (id : String) :
    (applyEv p ev).callable id = match ev with
      | .reg id' c => if id' = id then some c else p.callable id
      | .close c => match p.callable id with
        | some c' => if c' = c then none else some c'
        | none => none := by
  cases ev with
  | reg id' c => exact get_set p.hosts id' id c
  | close c =>
    simp only [applyEv, closeRemote, callable]
    split
    · rename_i hl
      -- nothing registered on c: no host points at it
      cases hg : p.hosts.get id with
      | none => rfl
      | some c' =>
        simp only
        by_cases e : c' = c
        · subst e; have := h.1 id c' hg; rw [hl] at this; cases this
        · simp [e]
    · exact get_filter _ h.2 c id

/-- **callable iff most recently registered on a connection that has not been closed since** — for every
history of connects, reconnects and closes in any order, starting from an empty registry -/
theorem callable_iff (evs : List Ev) (id : String) :
    (runEvs {} evs).callable id = specCallable id evs.reverse := by
  -- `specCallable` recurses on the history newest first, so the induction is on the reversed history
  suffices ∀ rev : List Ev, (runEvs {} rev.reverse).callable id = specCallable id rev by
    simpa using this evs.reverse
  intro rev
  induction rev with
  | nil => rfl
  | cons ev rev ih =>
    rw [List.reverse_cons, runEvs, List.foldl_append, List.foldl_cons, List.foldl_nil, ← runEvs,
      callable_step _ _ (inv_runEvs _), ih]
    cases ev <;> rfl

/-- closing a host's *old* connection does not unregister its new one -/
theorem close_old_keeps_new (evs : List Ev) (id cOld cNew : String) (h : cOld ≠ cNew) :
    (runEvs {} (evs ++ [.reg id cOld, .reg id cNew, .close cOld])).callable id = some cNew := by
  rw [callable_iff]
  simp [specCallable, h.symm]

/-- after a host's connection closes, requests that start later never call it -/
theorem closed_not_callable (evs : List Ev) (id c : String) :
    (runEvs {} (evs ++ [.close c])).callable id ≠ some c := by
  rw [callable_iff]
  simp only [List.reverse_append, List.reverse_cons, List.reverse_nil, List.nil_append, List.singleton_append, specCallable]
  cases specCallable id evs.reverse with
  | none => simp
  | some c' => by_cases e : c' = c <;> simp [e]

/-- a peer request only calls hosts on the connection they are callable on now -/
theorem requests_use_current_registration (p : Pool) (id : String) (num : Int) (choice : List String) (h c : String)
    (hm : (h, c) ∈ p.whitelistCalls id num choice) : p.callable h = some c := by
  obtain ⟨-, -, -, -, hg⟩ := mem_whitelistCalls hm
  exact hg

/-- the count of connected hosts is the number of distinct hosts with a live registration -/
theorem numRemotes_eq (evs : List Ev) :
    let p := runEvs {} evs
    NoDupKeys p.hosts ∧ p.numRemotes = p.hosts.keys.length ∧ ∀ id, id ∈ p.hosts.keys ↔ (p.callable id).isSome := by
  exact ⟨(inv_runEvs evs).2, by simp [numRemotes, keys], fun id => mem_keys_iff _ id⟩

/-- the pre-repair `CloseRemote` (delete by the node id the connection last registered): witness for the
repaired defect (DESIGN.md §9 F7) -/
def closeRemoteOld (p : Pool) (conn : String) : Pool :=
  match p.lookup.get conn with
  | none => p
  | some id => { p with lookup := p.lookup.del conn, hosts := p.hosts.del id }

theorem old_close_counterexample :
    let p := closeRemoteOld ((({} : Pool).register "h" "c1").register "h" "c2") "c1"
    p.callable "h" = none ∧
    (runEvs {} [.reg "h" "c1", .reg "h" "c2", .close "c1"]).callable "h" = some "c2" := by decide +kernel

/-- **a full node that cannot be called back is not registered**: a host `connect` arriving over a transport without
a reverse channel (plain HTTP) is refused and leaves the pool exactly as it was — registry, store and all (poolbin op
`hosthttp`; seeded change C15-r5 panicked there with the pool's lock held) -/
theorem host_without_connection_refused (p : Pool) (src id : String) (req : Pool.ConnectReq) (now : Int)
    (h : req.isFull = true) : p.connect none src id req now = (p, .error .noService) := by
  unfold Pool.connect
  simp [h]

end Vipnode.C09
